/-
Spec/Lossy.lean — the standard lossy decoding of a byte string (`String::from_utf8_lossy`, i.e.
`core::str::Utf8Chunks`): the input is read left to right; a well-formed UTF-8 sequence is copied;
otherwise the *maximal prefix of a well-formed sequence* that starts here (Unicode §3.9, "substitution
of maximal subparts": one to three bytes — the lead byte, plus the second byte if it is in the range the
lead byte allows, plus the third byte of a four-byte form if it is a continuation byte) is replaced by
one U+FFFD (`EF BF BD`) and reading resumes right after it.

`Path::to_string_lossy`, `Path::display`, `Display for Utf8Path…` of the crate are stated against this
function (Props/C19b); the harness compares it with the crate's output (`lossy` lines) and the crate's
output with real `String::from_utf8_lossy` on every run.
-/
import TypedPathVerif.Spec.Utf8

namespace TP.Utf8

open TP

/-- U+FFFD REPLACEMENT CHARACTER in UTF-8 -/
def REPL : Bytes := [0xEF, 0xBF, 0xBD]

/-- `from_utf8_lossy` on the bytes `b` (as bytes of the resulting string) -/
def lossy : Bytes → Bytes
  | [] => []
  | b0 :: r =>
    if isAscii b0 then b0 :: lossy r
    else match r with
      | [] => REPL
      | b1 :: r1 =>
        if lead2 b0 then
          (if isCont b1 then b0 :: b1 :: lossy r1 else REPL ++ lossy (b1 :: r1))
        else if ok3 b0 b1 then
          match r1 with
          | [] => REPL
          | b2 :: r2 => if isCont b2 then b0 :: b1 :: b2 :: lossy r2 else REPL ++ lossy (b2 :: r2)
        else if ok4 b0 b1 then
          match r1 with
          | [] => REPL
          | b2 :: r2 =>
            if isCont b2 then
              match r2 with
              | [] => REPL
              | b3 :: r3 => if isCont b3 then b0 :: b1 :: b2 :: b3 :: lossy r3 else REPL ++ lossy (b3 :: r3)
            else REPL ++ lossy (b2 :: r2)
        else REPL ++ lossy (b1 :: r1)
termination_by b => b.length

/-- number of U+FFFD the decoding inserts (0 exactly for valid input, `C19.replCount_zero_iff`) -/
def replCount : Bytes → Nat
  | [] => 0
  | b0 :: r =>
    if isAscii b0 then replCount r
    else match r with
      | [] => 1
      | b1 :: r1 =>
        if lead2 b0 then
          (if isCont b1 then replCount r1 else 1 + replCount (b1 :: r1))
        else if ok3 b0 b1 then
          match r1 with
          | [] => 1
          | b2 :: r2 => if isCont b2 then replCount r2 else 1 + replCount (b2 :: r2)
        else if ok4 b0 b1 then
          match r1 with
          | [] => 1
          | b2 :: r2 =>
            if isCont b2 then
              match r2 with
              | [] => 1
              | b3 :: r3 => if isCont b3 then replCount r3 else 1 + replCount (b3 :: r3)
            else 1 + replCount (b2 :: r2)
        else 1 + replCount (b1 :: r1)
termination_by b => b.length

end TP.Utf8

namespace TP.C19

open TP TP.Utf8

/-- `Path::to_str`: `core::str::from_utf8(bytes).ok()` -/
def toStr (b : Bytes) : Option Bytes := if validB b then some b else none
/-- `Path::to_string_lossy`, `Path::display().to_string()`, `Display for Utf8Path`: `String::from_utf8_lossy(bytes)` -/
def display (b : Bytes) : Bytes := lossy b

end TP.C19
