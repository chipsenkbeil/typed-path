/-
Spec/Utf8.lean — well-formed UTF-8 (RFC 3629, the table of Unicode §3.9), i.e. what
`core::str::from_utf8` accepts.  `Valid` is the inductive definition the theorems use, `validB`
the executable one the driver prints (`stdutf8`, compared with `from_utf8(..).is_ok()` by the
harness); `validB_iff` ties the two.
-/
import TypedPathVerif.Model.Basic

namespace TP.Utf8

open TP

def isAscii (b : UInt8) : Bool := b < 0x80
def isCont (b : UInt8) : Bool := 0x80 ≤ b && b ≤ 0xBF
def lead2 (b0 : UInt8) : Bool := 0xC2 ≤ b0 && b0 ≤ 0xDF
/-- lead byte of a 3-byte sequence together with its constrained second byte -/
def ok3 (b0 b1 : UInt8) : Bool :=
  (b0 = 0xE0 && 0xA0 ≤ b1 && b1 ≤ 0xBF) ||
  (((0xE1 ≤ b0 && b0 ≤ 0xEC) || b0 = 0xEE || b0 = 0xEF) && isCont b1) ||
  (b0 = 0xED && 0x80 ≤ b1 && b1 ≤ 0x9F)
/-- lead byte of a 4-byte sequence together with its constrained second byte -/
def ok4 (b0 b1 : UInt8) : Bool :=
  (b0 = 0xF0 && 0x90 ≤ b1 && b1 ≤ 0xBF) ||
  ((0xF1 ≤ b0 && b0 ≤ 0xF3) && isCont b1) ||
  (b0 = 0xF4 && 0x80 ≤ b1 && b1 ≤ 0x8F)

inductive Valid : Bytes → Prop where
  | nil : Valid []
  | ascii (b : UInt8) (r : Bytes) : isAscii b = true → Valid r → Valid (b :: r)
  | two (b0 b1 : UInt8) (r : Bytes) : lead2 b0 = true → isCont b1 = true → Valid r → Valid (b0 :: b1 :: r)
  | three (b0 b1 b2 : UInt8) (r : Bytes) : ok3 b0 b1 = true → isCont b2 = true → Valid r →
      Valid (b0 :: b1 :: b2 :: r)
  | four (b0 b1 b2 b3 : UInt8) (r : Bytes) : ok4 b0 b1 = true → isCont b2 = true → isCont b3 = true →
      Valid r → Valid (b0 :: b1 :: b2 :: b3 :: r)

def validB : Bytes → Bool
  | [] => true
  | b0 :: r =>
    if isAscii b0 then validB r
    else match r with
      | [] => false
      | b1 :: r1 =>
        if lead2 b0 then isCont b1 && validB r1
        else match r1 with
          | [] => false
          | b2 :: r2 =>
            if ok3 b0 b1 then isCont b2 && validB r2
            else match r2 with
              | [] => false
              | b3 :: r3 => ok4 b0 b1 && isCont b2 && isCont b3 && validB r3

end TP.Utf8
