/-
Spec/HashSpec.lean — what is fed to a hasher, in terms of the *components* of the path: the
derived hash of the parsed prefix kind, then the text of every component except prefix
and root, then the number of bytes written.  The driver prints it (`hashspec`) next to the
byte-level model of the Rust loop (`hash`); the harness compares both with the recorded
`Hasher::write` calls of the implementation.
-/
import TypedPathVerif.Model.Path

namespace TP.C05

open TP

def hashTexts (e : Enc) : List Comp → List Bytes
  | [] => []
  | .pfx _ :: r => hashTexts e r
  | .root :: r => hashTexts e r
  | c :: r => c.bytes e :: hashTexts e r

def hashPrefix : List Comp → List Bytes
  | .pfx p :: _ => p.kind.hashChunks
  | _ => []

def hashSpec (e : Enc) (b : Bytes) : List Bytes :=
  let cs := comps e b
  hashPrefix cs ++ hashTexts e cs ++ [usizeChunk ((hashTexts e cs).map List.length).sum]


end TP.C05
