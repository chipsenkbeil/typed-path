/-
Spec/StdBuf.lean — `std::path::PathBuf` mutations on a Unix host, as a step function.

`push` is std's documented rule (an absolute argument replaces; otherwise a separator is
inserted unless the buffer is empty or already ends in one — *also for an empty argument*,
which is where std and typed-path differ).  `pop` / `set_file_name` are std's definitions
(`truncate to parent`, `pop if there is a file name, then push`); the parent / file-name
queries they use are the model's Unix queries, which Props/C09 and Props/C06 relate to
`StdSpec`.  The harness compares this whole step function with a real `std::path::PathBuf`
on every run (`stdhist` lines).
-/
import TypedPathVerif.Model.Path

namespace TP.StdBuf

open TP

inductive Op where
  | push (p : Bytes)
  | pop
  | setFileName (n : Bytes)
  | clear
  | setExtension (x : Bytes)
  deriving Repr

def stdPush (s p : Bytes) : Bytes :=
  if p.head? = some SLASH then p
  else if s = [] ∨ s.getLast? = some SLASH then s ++ p
  else s ++ [SLASH] ++ p

/-- `PathBuf::pop`: truncate to the parent's length -/
def stdPop (s : Bytes) : Bytes × Bool :=
  match parent .unix s with
  | some q => (s.take q.length, true)
  | none => (s, false)

/-- one mutation of a `std::path::PathBuf`; the Boolean is `pop`'s result (`true` otherwise) -/
def stdStep (s : Bytes) : Op → Bytes × Bool
  | .push p => (stdPush s p, true)
  | .pop => stdPop s
  | .setFileName n =>
    let s' := if (fileName .unix s).isSome then (stdPop s).1 else s
    (stdPush s' n, true)
  | .clear => ([], true)
  | .setExtension x =>
    -- std: no file stem => false; otherwise truncate right after the file stem (pointer arithmetic on
    -- the stem slice), then append `.` and the extension when it is non-empty
    match fileName .unix s, fileStem .unix s with
    | some f, some stem =>
      ((s.take (lastCompEnd .unix s - f.length + stem.length)) ++ (if x = [] then [] else DOT :: x), true)
    | _, _ => (s, false)

/-- the same mutation on a typed-path `UnixPathBuf` (the model) -/
def modelStep (m : Bytes) : Op → Bytes × Bool
  | .push p => (push .unix m p, true)
  | .pop => pop .unix m
  | .setFileName n => (setFileName .unix m n, true)
  | .clear => ([], true)
  | .setExtension x => setExtension .unix m x

def runStd (s : Bytes) : List Op → List (Bytes × Bool)
  | [] => []
  | op :: ops => let r := stdStep s op; r :: runStd r.1 ops

def runModel (m : Bytes) : List Op → List (Bytes × Bool)
  | [] => []
  | op :: ops => let r := modelStep m op; r :: runModel r.1 ops

end TP.StdBuf
