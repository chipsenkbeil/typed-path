/-
Props/C19b.lean — the part of C19 that is logic: `to_str` and the lossy / `Display` output.

The crate's `Path::to_str` is `core::str::from_utf8(bytes).ok()`, `to_string_lossy` and `Display` are
`String::from_utf8_lossy(bytes)`.  In the model: `toStr b = some b` iff `Utf8.validB b`, and
`display b = Utf8.lossy b` (Spec/Lossy.lean, the standard lossy decoding).  The harness compares both
with the crate on every run (`lossy` lines) and the crate with real `from_utf8_lossy`.

The theorems about every input are inductions over the two kinds of step the decoder makes (`lossy_ind`).
-/
import TypedPathVerif.Spec.Lossy
import TypedPathVerif.Lemmas.Utf8

namespace TP.C19

open TP.Utf8 TP.C14b

/-- `to_str` returns `Some` exactly for a path whose bytes are well-formed UTF-8 … -/
theorem toStr_some_iff (b : Bytes) : (toStr b).isSome = true ↔ Valid b := by
  unfold toStr
  rw [← validB_iff]
  cases validB b <;> simp

/-- … and the string is then the path's own bytes. -/
theorem toStr_eq (b s : Bytes) (h : toStr b = some s) : s = b := by
  unfold toStr at h
  split at h
  · cases h; rfl
  · cases h

theorem valid_REPL_append {x : Bytes} (h : Valid x) : Valid (REPL ++ x) :=
  Valid.three 0xEF 0xBF 0xBD x (by decide) (by decide) h

/-- a chunk the decoder replaces: one to three bytes, none of them ASCII -/
def Bad (c : Bytes) : Prop := c ≠ [] ∧ c.length ≤ 3 ∧ ∀ x ∈ c, isAscii x = false

theorem Bad.one {a : UInt8} (ha : ¬ isAscii a = true) : Bad [a] :=
  ⟨List.cons_ne_nil _ _, by simp, by simpa using ha⟩

theorem Bad.two {a b : UInt8} (ha : ¬ isAscii a = true) (hb : isAscii b = false) : Bad [a, b] :=
  ⟨List.cons_ne_nil _ _, by simp, by simpa using And.intro (Bool.eq_false_iff.mpr ha) hb⟩

theorem Bad.three {a b c : UInt8} (ha : ¬ isAscii a = true) (hb : isAscii b = false) (hc : isAscii c = false) :
    Bad [a, b, c] :=
  ⟨List.cons_ne_nil _ _, by simp, by simpa using ⟨Bool.eq_false_iff.mpr ha, hb, hc⟩⟩

/-- The decoder reads its input in steps of two kinds: a character is copied, or a chunk of one to
three non-ASCII bytes (the maximal prefix of a well-formed sequence) is replaced by U+FFFD. -/
theorem lossy_ind {P : Bytes → Bytes → Prop} (nil : P [] [])
    (keep : ∀ c r o, IsChar c → P r o → P (c ++ r) (c ++ o))
    (repl : ∀ c r o, Bad c → P r o → P (c ++ r) (REPL ++ o)) (b : Bytes) : P b (lossy b) := by
  fun_induction lossy b with
  | case1 => exact nil
  | case2 b0 r h ih => exact keep [b0] _ _ (.ascii h) ih
  | case3 b0 hna => exact repl [b0] _ _ (.one hna) nil
  | case4 b0 hna b1 r1 h0 h1 ih => exact keep [b0, b1] _ _ (.two h0 h1) ih
  | case5 b0 hna b1 r1 h0 h1 ih => exact repl [b0] _ _ (.one hna) ih
  | case6 b0 hna b1 h0 h3 => exact repl [b0, b1] _ _ (.two hna (not_ascii_ok3 h3).2) nil
  | case7 b0 hna b1 h0 h3 b2 r2 h2 ih => exact keep [b0, b1, b2] _ _ (.three h3 h2) ih
  | case8 b0 hna b1 h0 h3 b2 r2 h2 ih => exact repl [b0, b1] _ _ (.two hna (not_ascii_ok3 h3).2) ih
  | case9 b0 hna b1 h0 h3 h4 => exact repl [b0, b1] _ _ (.two hna (not_ascii_ok4 h4).2) nil
  | case10 b0 hna b1 h0 h3 h4 b2 h2 =>
    exact repl [b0, b1, b2] _ _ (.three hna (not_ascii_ok4 h4).2 (not_ascii_cont h2)) nil
  | case11 b0 hna b1 h0 h3 h4 b2 h2 b3 r3 h5 ih => exact keep [b0, b1, b2, b3] _ _ (.four h4 h2 h5) ih
  | case12 b0 hna b1 h0 h3 h4 b2 h2 b3 r3 h5 ih =>
    exact repl [b0, b1, b2] _ _ (.three hna (not_ascii_ok4 h4).2 (not_ascii_cont h2)) ih
  | case13 b0 hna b1 h0 h3 h4 b2 r2 h2 ih => exact repl [b0, b1] _ _ (.two hna (not_ascii_ok4 h4).2) ih
  | case14 b0 hna b1 r1 h0 h3 h4 ih => exact repl [b0] _ _ (.one hna) ih

/-- What `to_string_lossy` and `Display` produce is well-formed UTF-8 for every path. -/
theorem lossy_valid (b : Bytes) : Valid (lossy b) :=
  lossy_ind (P := fun _ o => Valid o) .nil (fun _ _ _ hc => hc.valid_append) (fun _ _ _ _ => valid_REPL_append) b

/-- `Display` of a UTF-8 path shows the path -/
theorem lossy_of_valid {b : Bytes} (h : Valid b) : lossy b = b := by
  induction h with
  | nil => rw [lossy.eq_def]
  | ascii x r hx _ ih => rw [lossy.eq_def]; simp [hx, ih]
  | two b0 b1 r h0 h1 _ ih => rw [lossy.eq_def]; simp [not_ascii_lead2 h0, h0, h1, ih]
  | three b0 b1 b2 r h0 h2 _ ih =>
    rw [lossy.eq_def]; simp [(not_ascii_ok3 h0).1, lead2_false_of_ok3 h0, h0, h2, ih]
  | four b0 b1 b2 b3 r h0 h2 h3 _ ih =>
    rw [lossy.eq_def]; simp [(not_ascii_ok4 h0).1, lead2_false_of_ok4 h0, ok3_false_of_ok4 h0, h0, h2, h3, ih]

/-- `to_string_lossy` returns the path's own bytes exactly when `to_str` would have succeeded. -/
theorem lossy_eq_self_iff (b : Bytes) : lossy b = b ↔ Valid b :=
  ⟨fun h => h ▸ lossy_valid b, lossy_of_valid⟩

/-- The string `to_string_lossy` returns, taken as a path again, displays as itself. -/
theorem lossy_idempotent (b : Bytes) : lossy (lossy b) = lossy b := lossy_of_valid (lossy_valid b)

theorem toStr_eq_display (b s : Bytes) (h : toStr b = some s) : display b = s := by
  have hs := toStr_eq b s h
  subst hs
  exact lossy_of_valid ((toStr_some_iff s).mp (by rw [h]; rfl))

theorem filter_REPL_append (x : Bytes) : (REPL ++ x).filter isAscii = x.filter isAscii := by
  simp [REPL, List.filter, isAscii]

/-- the ASCII bytes of the output are those of the input, in order: decoding never adds, drops or moves
a separator, a dot, a colon or a letter -/
theorem lossy_ascii (b : Bytes) : (lossy b).filter isAscii = b.filter isAscii := by
  refine lossy_ind (P := fun b o => o.filter isAscii = b.filter isAscii) rfl (fun c r o _ ih => ?_)
    (fun c r o hc ih => ?_) b
  · rw [List.filter_append, List.filter_append, ih]
  · have : c.filter isAscii = [] := List.filter_eq_nil_iff.mpr (by simpa using hc.2.2)
    rw [filter_REPL_append, List.filter_append, ih, this]
    rfl

/-- a copied character keeps its length; a replaced chunk has one to three bytes and U+FFFD has three -/
theorem lossy_length (b : Bytes) : b.length ≤ (lossy b).length ∧ (lossy b).length ≤ 3 * b.length := by
  refine lossy_ind (P := fun b o => b.length ≤ o.length ∧ o.length ≤ 3 * b.length) ⟨Nat.le_refl _, Nat.le_refl _⟩
    (fun c r o _ ih => ?_) (fun c r o hc ih => ?_) b
  · rw [List.length_append, List.length_append, Nat.mul_add]
    exact ⟨Nat.add_le_add_left ih.1 _, Nat.add_le_add (Nat.le_mul_of_pos_left _ (by decide)) ih.2⟩
  · rw [List.length_append, List.length_append, Nat.mul_add]
    exact ⟨Nat.add_le_add hc.2.1 ih.1,
      Nat.add_le_add (Nat.le_mul_of_pos_right 3 (List.length_pos_iff.mpr hc.1)) ih.2⟩

theorem lossy_length_le (b : Bytes) : (lossy b).length ≤ 3 * b.length := (lossy_length b).2

theorem lossy_length_ge (b : Bytes) : b.length ≤ (lossy b).length := (lossy_length b).1

/-- `Display` inserts no U+FFFD exactly for a UTF-8 path. -/
theorem replCount_zero_iff (b : Bytes) : replCount b = 0 ↔ Valid b := by
  constructor
  · fun_induction replCount b with
    | case1 => intro _; exact Valid.nil
    | case2 b0 r h ih => intro h'; exact Valid.ascii _ _ h (ih h')
    | case3 b0 hna => intro h'; cases h'
    | case4 b0 hna b1 r1 h0 h1 ih => intro h'; exact Valid.two _ _ _ h0 h1 (ih h')
    | case5 b0 hna b1 r1 h0 h1 ih => intro h'; omega
    | case6 b0 hna b1 h0 h3 => intro h'; cases h'
    | case7 b0 hna b1 h0 h3 b2 r2 h2 ih => intro h'; exact Valid.three _ _ _ _ h3 h2 (ih h')
    | case8 b0 hna b1 h0 h3 b2 r2 h2 ih => intro h'; omega
    | case9 b0 hna b1 h0 h3 h4 => intro h'; cases h'
    | case10 b0 hna b1 h0 h3 h4 b2 h2 => intro h'; cases h'
    | case11 b0 hna b1 h0 h3 h4 b2 h2 b3 r3 h5 ih => intro h'; exact Valid.four _ _ _ _ _ h4 h2 h5 (ih h')
    | case12 b0 hna b1 h0 h3 h4 b2 h2 b3 r3 h5 ih => intro h'; omega
    | case13 b0 hna b1 h0 h3 h4 b2 r2 h2 ih => intro h'; omega
    | case14 b0 hna b1 r1 h0 h3 h4 ih => intro h'; omega
  · intro h
    induction h with
    | nil => rw [replCount.eq_def]
    | ascii x r hx _ ih => rw [replCount.eq_def]; simp [hx, ih]
    | two b0 b1 r h0 h1 _ ih => rw [replCount.eq_def]; simp [not_ascii_lead2 h0, h0, h1, ih]
    | three b0 b1 b2 r h0 h2 _ ih =>
      rw [replCount.eq_def]; simp [(not_ascii_ok3 h0).1, lead2_false_of_ok3 h0, h0, h2, ih]
    | four b0 b1 b2 b3 r h0 h2 h3 _ ih =>
      rw [replCount.eq_def]; simp [(not_ascii_ok4 h0).1, lead2_false_of_ok4 h0, ok3_false_of_ok4 h0, h0, h2, h3, ih]

-- "a/é" is shown as it is
example : display [0x61, 0x2F, 0xC3, 0xA9] = [0x61, 0x2F, 0xC3, 0xA9] :=
  lossy_of_valid (Valid.ascii _ _ (by decide +kernel) (Valid.ascii _ _ (by decide +kernel) (Valid.two _ _ _ (by decide +kernel) (by decide +kernel) Valid.nil)))
-- a lone continuation byte, a truncated three-byte form at the end and in the middle
example : display [0x80] = REPL := by decide +kernel
example : display [0x61, 0xE2, 0x82] = 0x61 :: REPL := by decide +kernel
example : display [0xE2, 0x82, 0x2F] = REPL ++ [0x2F] := by decide +kernel
example : toStr [0x61, 0xFF] = none := by decide +kernel
example : toStr [0x61, 0x2F] = some [0x61, 0x2F] := by decide +kernel

end TP.C19
