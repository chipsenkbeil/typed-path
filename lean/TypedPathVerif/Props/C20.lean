/-
Props/C20.lean — Feature configuration does not change path semantics.

`Generated/Sites.lean` lists every conditional-compilation attribute of /repo/src (outside
test modules) whose predicate mentions a cargo feature, as the source has them *now*.
`cfg_additive` is kernel evaluation over the whole table: the only feature ever tested is `std`;
it is tested *negatively* only by the crate-level `#![cfg_attr(not(feature = "std"), no_std)]`;
every other site is a positive guard on a whole item (impl / fn / mod / use / struct …) or a
crate-level doc attribute — never on a statement, expression, match arm or an alternative body.

Consequence (read off the table, not a theorem about Rust): the items compiled without `std` are
a subset of the items compiled with it, from identical source text, so no operation that exists
in both configurations has two definitions.  The attribute table cannot see code that asks
`cfg!(feature = "std")` at run time; the generator counts such uses beside it, and there is none
(`no_runtime_feature_test`).  What neither excludes — a dependency behaving differently — is covered by
running both builds on the same operations against the one model (the correspondence of this check).
-/
import TypedPathVerif.Generated.Sites
import TypedPathVerif.Generated.Api

namespace TP.C20

open TP.Generated

def siteOK (s : CfgSite) : Bool :=
  -- only the `std` feature is ever tested
  s.leaves.all (fun l => l.1) &&
  -- a negated leaf occurs only in the crate-level `cfg_attr(not(feature = "std"), no_std)`
  (s.leaves.all (fun l => !l.2) || (s.inner && s.isCfgAttr && s.applied == 1)) &&
  -- a guard covers a whole item (or the crate), never a statement / expression
  (s.item != 20) &&
  -- a cfg_attr applies only `no_std` or documentation
  (!s.isCfgAttr || s.applied == 1 || s.applied == 2)

/-- The `std` feature is purely additive at every conditional-compilation site of the crate. -/
theorem cfg_additive : cfgSites.all siteOK = true := by decide +kernel

/-- no run-time `cfg!(feature = …)` test exists (the attribute table would not show one) -/
theorem no_runtime_feature_test : cfgMacroFeatureUses = 0 := by decide +kernel

/-- there is something to check (non-vacuity): the table is not empty and contains the
`no_std` switch -/
theorem cfg_sites_nonempty :
    cfgSites.length ≥ 10 ∧ cfgSites.any (fun s => s.inner && s.applied == 1) = true := by decide +kernel

/-- every public method the `base` group of source files declares now is called by the harness
(regenerated table, gen/api.py): a method added without a transcript line breaks this -/
theorem api_exercised_base : Generated.apiUnexercised_base = [] := rfl

end TP.C20
