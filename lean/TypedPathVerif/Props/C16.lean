/-
Props/C16.lean — Encoding conversion keeps structure; checked conversion yields only valid paths.

Here: converting to the same encoding returns the same bytes (checked: iff valid); and the conversion to Unix of
a prefix-free Windows path (`pfxStart = false`, Lemmas/PfxStart) parses to exactly the same component kinds and
names (`conv_w2u_prefix_free`).  Without a prefix component the conversion pushes every component's text
(`convFold_eq_pushAll`), and a Windows name, free of both separators, is a Unix name: the render lemma applies, and
no portability hypothesis is needed in this direction.

Unix → Windows and the round trips are in `C16b`, Windows sources with a prefix in `C16c` and `C16f` (namespaces
`C16f`, `C16g`), the checked conversions in `C16d`, `C16e`.  Known finding K4: a source name containing a
separator of the target (`conv_checked_K4_witness`).
-/
import TypedPathVerif.Props.C11
import TypedPathVerif.Props.C04
import TypedPathVerif.Lemmas.PfxStart
import TypedPathVerif.Lemmas.ConvStep

namespace TP.C16

theorem conv_same_label (e : Enc) (b : Bytes) : withEncoding e e b = b := by
  simp [withEncoding]

theorem conv_checked_same_label (e : Enc) (b : Bytes) :
    withEncodingChecked e e b = (if isValid e b then .ok b else .error .invalidFilename) := by
  simp [withEncodingChecked]

theorem wsep_of_usep (y : UInt8) (h : usep y = true) : wsep true y = true := by
  simp only [usep, decide_eq_true_eq] at h
  simp [wsep, h]

theorem compsT_parsed_unix (b : Bytes) : Parsed usep (compsT false true (toks (wsep true) b)) :=
  (compsT_parsed (WFToks_toks (wsep true) b)).mono wsep_of_usep

theorem conv_compsT (b : Bytes) :
    comps .unix (convFold .unix [] (compsT false true (toks (wsep true) b))) =
      compsT false true (toks (wsep true) b) := by
  rw [convFold_eq_pushAll _ _ _ (compsT_parsed_unix b).noPfx]
  exact render_parsed _ (compsT_parsed_unix b)

theorem conv_compsT_rooted (b : Bytes) (hb : Win.HeadOK (wsep true) b) :
    comps .unix (convFold .unix [SLASH] (compsT false true (toks (wsep true) b))) =
      if (compsT false true (toks (wsep true) b)).head? = some .root then compsT false true (toks (wsep true) b)
      else .root :: compsT false true (toks (wsep true) b) := by
  have hp := compsT_parsed_unix b
  rw [convFold_eq_pushAll _ _ _ hp.noPfx]
  rcases Win.compsT_of_headOK false hb with h0 | ⟨r, h0⟩
  · rw [h0]
    exact unix_comps_root
  · -- pushing the root onto `/` leaves `/`: `decide` evaluates `push`, and with it the parser, on the literal `[SLASH]`
    rw [h0] at hp ⊢
    rw [pushAll, show push .unix [SLASH] (Comp.root.bytes .unix) = [SLASH] from by decide,
      pushAll_tail r [SLASH] hp.2, unix_comps_root]
    rfl

/-- Converting a prefix-free (and hence non-verbatim) Windows path to Unix preserves the
sequence of component kinds and names exactly. -/
theorem conv_w2u_prefix_free (b : Bytes) (h : pfxStart b = false) :
    comps .unix (withEncoding .windows .unix b) = comps .windows b := by
  rw [withEncoding_ne (by decide), win_comps_pf b h]
  exact conv_compsT b

/-- K4 witness: the Unix path `a\b` (one name) converts, *checked*, to the Windows path `a\b`,
which has two components. -/
theorem conv_checked_K4_witness :
    withEncodingChecked .unix .windows [97, 92, 98] = .ok [97, 92, 98] ∧
    comps .unix [97, 92, 98] = [.normal [97, 92, 98]] ∧
    comps .windows [97, 92, 98] = [.normal [97], .normal [98]] := by
  refine ⟨?_, ?_, ?_⟩
  · have hne : Enc.unix ≠ Enc.windows := by decide
    simp only [withEncodingChecked, hne, if_false]
    rw [C03.comps_new_closed]
    simp only [Enc.new, List.nil_append]
    have : compsT false true (toks usep [97, 92, 98]) = [.normal [97, 92, 98]] := by decide +kernel
    rw [this]
    simp only [convFoldChecked, Comp.isRoot, Comp.isCur, Comp.isParent, Comp.isNormal, Bool.false_eq_true,
      if_false, if_true, Comp.bytes]
    unfold pushChecked
    rw [C03.comps_new_closed]
    decide +kernel
  · rw [C03.comps_new_closed]; decide +kernel
  · rw [C03.comps_new_closed]; decide +kernel

-- `a\b/..` ↦ `a/b/..`

example : pfxStart [97, 92, 98, 47, 99] = false := by decide +kernel
example : withEncoding .windows .unix [97, 92, 98, 47, 46, 46] = [97, 47, 98, 47, 46, 46] := by
  have hne : Enc.windows ≠ Enc.unix := by decide +kernel
  simp only [withEncoding, hne, if_false]
  rw [C03.comps_new_closed]; decide +kernel

end TP.C16
