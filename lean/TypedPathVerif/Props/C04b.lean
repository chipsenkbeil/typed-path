/-
Props/C04b.lean — C04 continued: "the result's components begin with exactly the base's" for
Windows bases: with a complete non-verbatim prefix (`C04b`), prefix-free or with a stable verbatim
prefix (`C04c`), and the stable incomplete base `\\?\UNC\server\` (`C04d`).

An argument the checked push accepts does not start like a prefix and does not start with a separator
(`accepted_prefix_free`), so the unchecked join takes the "append" rule, and the clause follows from C08's
component clause for the class of base: `Win.win_push_comps_prefixed`, `C16b.win_push_comps_pf`,
`C08c.win_push_comps_verbatim_stable` (a base with a verbatim prefix is rebuilt from components,
`C08.win_push_verbatim`).  Bases that start like a prefix without forming a stable one are K3 territory and
stay with the oracle.
-/
import TypedPathVerif.Lemmas.WinAppend
import TypedPathVerif.Props.C04
import TypedPathVerif.Props.C08
import TypedPathVerif.Props.C16b
import TypedPathVerif.Props.C08c
import TypedPathVerif.Props.C02c
import TypedPathVerif.Lemmas.NormFold

namespace TP.C04b

open TP.JoinRules

theorem accepted_prefix_free (p : Bytes)
    (hacc : C04.allPlain .windows (comps .windows p) ∧ C04.neverClimbs 0 (comps .windows p)) :
    C16.pfxStart p = false ∧ startsWithSep p = false := by
  have hnone : parsePrefixComp p = none := by
    cases hp : parsePrefixComp p with
    | none => rfl
    | some x =>
      have hm : Comp.pfx x.1 ∈ comps .windows p := comps_of_parse hp ▸ List.mem_cons_self ..
      cases (hacc.1 _ hm).1
  have hc := comps_of_no_prefix hnone
  have hrel : startsWithSep p = false := by
    cases hs : startsWithSep p with
    | false => rfl
    | true =>
      have hr := List.mem_of_mem_head? (hc ▸ (Win.head_root_iff_startsWithSep false p).mpr hs)
      exact absurd rfl (hacc.1 .root hr).2.1
  refine ⟨?_, hrel⟩
  cases hps : C16.pfxStart p with
  | false => rfl
  | true =>
    exfalso
    match p, hps with
    | a :: c :: rest, hps =>
      simp only [C16.pfxStart, Bool.or_eq_true, Bool.and_eq_true, decide_eq_true_eq] at hps
      rcases hps with ⟨ha, _⟩ | ⟨ha, hc⟩
      · simp [startsWithSep, ha] at hrel
      · subst hc
        have hp : parsePrefix (a :: COLON :: rest) = some (.disk (toAsciiUpper a), rest) :=
          Win.parsePrefix_iff.mpr ⟨[a, COLON], rfl, .disk ha⟩
        rw [parsePrefix_none_of_comp hnone] at hp
        cases hp

/-- the base's components with the implicit root of a bare non-disk prefix written out: `C12c.shown ca` when
`ca` are the components of a base that parses to the complete non-verbatim prefix `p` and `rest` -/
def baseShown (p : PrefixComp) (rest : Bytes) (ca : List Comp) : List Comp :=
  if rest = [] then
    (match p.kind with
     | .disk _ => [.pfx p]
     | _ => [.pfx p, .root])
  else ca

/-- what the argument contributes: its components, minus a leading `.` unless it still starts
the path (directly after a bare disk prefix) -/
def added (p : PrefixComp) (rest : Bytes) (cq : List Comp) : List Comp :=
  if rest = [] then
    (match p.kind with
     | .disk _ => cq
     | _ => dropLeadingCur cq)
  else dropLeadingCur cq

/-- **Checked join keeps a prefixed Windows base.**  For a base `a` with a complete non-verbatim
prefix, if `push_checked` succeeds then the result's components are exactly the base's (implicit
root shown) followed by the argument's, and what was added contains no prefix, no root, only
valid names, and never climbs above the base; the result is again a well-formed path. -/
theorem win_checked_keeps_base_prefixed (a q r rest : Bytes) (p : PrefixComp)
    (hpa : parsePrefixComp a = some (p, rest)) (hc : Win.Complete p.kind) (hnv : isVerbatimKind p.kind = false)
    (hqne : q ≠ []) (h : pushChecked .windows a q = .ok r) :
    comps .windows r = baseShown p rest (comps .windows a) ++ added p rest (comps .windows q) ∧
    C04.allPlain .windows (added p rest (comps .windows q)) ∧
    C04.neverClimbs 0 (added p rest (comps .windows q)) ∧ Win.WF r := by
  obtain ⟨hacc, hr⟩ := (C04.checked_accepts_iff .windows a q r).mp h
  obtain ⟨hq, hrel⟩ := accepted_prefix_free q hacc
  obtain ⟨hwf, hcomp⟩ := Win.win_push_comps_prefixed a q rest p hpa hc hnv hqne hq hrel
  have hdl := C04.dropLeadingCur_sublist_props .windows (comps .windows q) 0 hacc
  rw [hr, show push .windows a q = windowsPush a q from rfl, hcomp]
  unfold baseShown added
  by_cases hrest : rest = []
  · -- a lone prefix: directly after a disk the argument still starts the path
    rw [if_pos hrest, if_pos hrest, if_pos hrest]
    cases hk : p.kind with
    | disk d => exact ⟨rfl, hacc.1, hacc.2, hwf⟩
    | _ => exact ⟨rfl, hdl.1, hdl.2, hwf⟩
  · rw [if_neg hrest, if_neg hrest, if_neg hrest]
    exact ⟨rfl, hdl.1, hdl.2, hwf⟩

-- `C:\a` + `b\..\c`, `\\s\h` + `x`, `C:` + `.` = `C:.`

example : pushChecked .windows [67, 58, 92, 97] [98, 92, 46, 46, 92, 99] = .ok [67, 58, 92, 97, 92, 98, 92, 46, 46, 92, 99] := by
  unfold pushChecked; rw [C03.comps_new_closed]; decide +kernel
example : pushChecked .windows [92, 92, 115, 92, 104] [120] = .ok [92, 92, 115, 92, 104, 92, 120] := by
  unfold pushChecked; rw [C03.comps_new_closed]; decide +kernel
example : pushChecked .windows [67, 58] [46] = .ok [67, 58, 46] := by
  unfold pushChecked; rw [C03.comps_new_closed]; decide +kernel
example : parsePrefixComp [92, 92, 115, 92, 104] = some (⟨[92, 92, 115, 92, 104], .unc [115] [104]⟩, []) := by decide +kernel

end TP.C04b

/-! ## prefix-free bases, and bases with a stable verbatim prefix -/

namespace TP.C04c

open TP.C16 TP.C16b TP.Win TP.JoinRules TP.C08c

/-- Windows, prefix-free base (not the K3 shape): a successful checked push yields exactly the
base's components followed by the argument's (minus a leading `.`), and the added components
contain no prefix, no root and never climb. -/
theorem win_checked_keeps_base_pf (cur p r : Bytes) (hcur : pfxStart cur = false) (hne : cur ≠ [])
    (h : pushChecked .windows cur p = .ok r) :
    comps .windows r = comps .windows cur ++ dropLeadingCur (comps .windows p) ∧
    C04.allPlain .windows (dropLeadingCur (comps .windows p)) ∧
    C04.neverClimbs 0 (dropLeadingCur (comps .windows p)) := by
  obtain ⟨hacc, hr⟩ := (C04.checked_accepts_iff .windows cur p r).mp h
  refine ⟨?_, C04.dropLeadingCur_sublist_props .windows _ 0 hacc⟩
  subst hr
  by_cases hp : p = []
  · subst hp
    rw [show push .windows cur [] = cur from C08.win_push_empty cur, comps_win_nil]
    exact (List.append_nil _).symm
  · obtain ⟨hpp, hrel⟩ := C04b.accepted_prefix_free p hacc
    exact (win_push_comps_pf cur p hcur hne hp hpp hrel).2

/-- when the incoming components never climb, the fold only touches the names it put on the stack itself:
a `..` always finds one of them to cancel -/
theorem normFold_neverClimbs : ∀ (cs : List Comp) (ns : List Bytes) (L : List Comp),
    C04.neverClimbs ns.length cs → (∀ c ∈ cs, C11b.bodyOK c) →
    normFold (L ++ ns.map Comp.normal) cs = L ++ (C11b.nameFold ns cs).map Comp.normal
  | [], _, _, _, _ => rfl
  | c :: cs, ns, L, hnc, hcs => by
    have hc : C11b.bodyOK c := hcs c (List.mem_cons_self ..)
    have hstep : C04.neverClimbs (C11b.nameFold ns [c]).length cs ∧ (c = .parent → ns ≠ []) := by
      rcases hc with rfl | rfl | ⟨s, rfl⟩
      · exact ⟨hnc, Comp.noConfusion⟩
      · refine ⟨by simpa [C11b.nameFold] using hnc.2, fun _ h0 => ?_⟩
        rw [h0] at hnc
        exact absurd hnc.1 (by simp)
      · exact ⟨by simpa [C11b.nameFold, C04.neverClimbs] using hnc, Comp.noConfusion⟩
    rw [C11b.nameFold_cons, C11b.normFold_names_step L ns cs hc hstep.2]
    exact normFold_neverClimbs cs _ L hstep.1 (fun x hx => hcs x (List.mem_cons_of_mem _ hx))

theorem fold_neverClimbs (cs : List Comp) (ns : List Bytes) (L : List Comp)
    (hnc : C04.neverClimbs ns.length cs) (hcs : ∀ c ∈ cs, C11b.bodyOK c) :
    verbatimFold (L ++ ns.map Comp.normal) cs = L ++ (C11b.nameFold ns cs).map Comp.normal := by
  rw [verbatimFold_eq_normFold _ _ fun hr => by rcases hcs _ hr with h | h | ⟨s, h⟩ <;> cases h]
  exact normFold_neverClimbs cs ns L hnc hcs

/-- **Checked join keeps a verbatim-prefixed base.**  If `push_checked` succeeds on a base with a
stable verbatim prefix (followed by nothing or a separator), the result's components are the
base's followed by the names that survive the argument's own `..` cancellations — root after
the prefix written out — and the result keeps the same prefix. -/
theorem win_checked_keeps_base_stable (a q r rest : Bytes) (p : PrefixComp)
    (hpa : parsePrefixComp a = some (p, rest)) (hs : Stable p) (hv : isVerbatimKind p.kind = true)
    (hrest : HeadOK (wsep (normOf p.raw)) rest) (hqne : q ≠ [])
    (h : pushChecked .windows a q = .ok r) :
    comps .windows r =
      withRoot (comps .windows a ++ (C11b.nameFold [] (comps .windows q)).map Comp.normal) ∧
    (∀ s ∈ C11b.nameFold [] (comps .windows q), Comp.normal s ∈ comps .windows q) ∧
    ∃ rest', parsePrefixComp r = some (p, rest') := by
  obtain ⟨hacc, hr⟩ := (C04.checked_accepts_iff .windows a q r).mp h
  obtain ⟨hq, _⟩ := C04b.accepted_prefix_free q hacc
  obtain ⟨h1, _, rest', _, _, h3⟩ := win_push_comps_verbatim_stable a q rest p hpa hs hv hrest hqne hq
  have hform : ∀ c ∈ comps .windows q, C11b.bodyOK c := by
    intro c hc
    obtain ⟨hp, hroot, _⟩ := hacc.1 c hc
    cases c with
    | pfx _ => cases hp
    | root => exact absurd rfl hroot
    | cur => exact Or.inl rfl
    | parent => exact Or.inr (Or.inl rfl)
    | normal s => exact Or.inr (Or.inr ⟨s, rfl⟩)
  have hfold := fold_neverClimbs (comps .windows q) [] (comps .windows a) (by simpa using hacc.2) hform
  simp only [List.map_nil, List.append_nil] at hfold
  rw [hr]
  refine ⟨by rw [h1, hfold], fun s hs => ?_, rest', h3⟩
  rcases C11b.nameFold_subset _ [] s hs with h' | h'
  · simp at h'
  · exact h'

/-- the case of a complete verbatim prefix -/
theorem win_checked_keeps_base_verbatim (a q r rest : Bytes) (p : PrefixComp)
    (hpa : parsePrefixComp a = some (p, rest)) (hc : Complete p.kind) (hv : isVerbatimKind p.kind = true)
    (hrest : HeadOK (wsep (normOf p.raw)) rest) (hqne : q ≠ [])
    (h : pushChecked .windows a q = .ok r) :
    comps .windows r =
      withRoot (comps .windows a ++ (C11b.nameFold [] (comps .windows q)).map Comp.normal) ∧
    (∀ s ∈ C11b.nameFold [] (comps .windows q), Comp.normal s ∈ comps .windows q) ∧
    ∃ rest', parsePrefixComp r = some (p, rest') :=
  win_checked_keeps_base_stable a q r rest p hpa (stable_of_complete hpa hc) hv hrest hqne h

end TP.C04c

/-! ## a verbatim prefix that is stable but incomplete

`C04c.win_checked_keeps_base_stable` holds for every *stable* verbatim prefix, in particular for
`\\?\UNC\server\` (empty share, the separator inside the prefix) — the base of seed C04r10, where a changed
`push` let the first name of the untrusted argument become the share of the prefix. -/

namespace TP.C04d

open TP.JoinRules TP.Win TP.C04c

/-- (`hrest` says more than `hro`, which is `True` after a verbatim disk prefix: `\\?\C:x` is left out,
as in `C08e.win_push_comps_verbatim_of_stable`.) -/
theorem win_checked_keeps_base_verbatim_of_stable (a q r rest : Bytes) (p : PrefixComp)
    (hpa : parsePrefixComp a = some (p, rest)) (hs : Stable p) (hro : RestOK p rest) (hv : isVerbatimKind p.kind = true)
    (hrest : HeadOK (wsep (normOf p.raw)) rest) (hqne : q ≠ [])
    (h : pushChecked .windows a q = .ok r) :
    comps .windows r =
      withRoot (comps .windows a ++ (C11b.nameFold [] (comps .windows q)).map Comp.normal) ∧
    (∀ s ∈ C11b.nameFold [] (comps .windows q), Comp.normal s ∈ comps .windows q) ∧
    ∃ rest', parsePrefixComp r = some (p, rest') :=
  win_checked_keeps_base_stable a q r rest p hpa hs hv hrest hqne h

/-- **Checked join onto `\\?\UNC\server\`** keeps the base: same prefix, empty share, nothing of `q` inside it.
`hlen`: `\\?\UNC\` is 8 bytes, and the separator after the server (`+ 1`) is already inside the prefix. -/
theorem win_checked_keeps_base_noshare (a q r rest sv : Bytes) (p : PrefixComp)
    (hpa : parsePrefixComp a = some (p, rest)) (hk : p.kind = .verbatimUNC sv [])
    (hlen : p.raw.length = 8 + sv.length + 1)
    (hrest : HeadOK (wsep (normOf p.raw)) rest) (hqne : q ≠ [])
    (h : pushChecked .windows a q = .ok r) :
    comps .windows r =
      withRoot (comps .windows a ++ (C11b.nameFold [] (comps .windows q)).map Comp.normal) ∧
    (∀ s ∈ C11b.nameFold [] (comps .windows q), Comp.normal s ∈ comps .windows q) ∧
    ∃ rest', parsePrefixComp r = some (p, rest') :=
  win_checked_keeps_base_stable a q r rest p hpa (stable_verbatimUNC_noshare_sep hpa hk hlen) (by rw [hk]; rfl)
    hrest hqne h

end TP.C04d
