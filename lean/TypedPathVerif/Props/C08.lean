/-
Props/C08.lean — Windows join and push follow the documented joining rules.

`win_push_bytes`: for *all* byte strings a, b (no well-formedness needed) the model's push
produces exactly the bytes `JoinRules.joinBytes` prescribes in the four non-verbatim cases,
and under a verbatim prefix the re-rendering of `JoinRules.verbatimComps`; both read off
`windowsPush_eq` (Lemmas/WinPush).  The component-level clause ("a's components followed by b's") is false at
known finding K3 (`win_push_K3_witness`); for prefix-free bases it is `C16b.win_push_comps_pf`, for
prefixed ones `Win.win_push_comps_prefixed`, under a verbatim prefix `C08c.win_push_comps_verbatim`.
-/
import TypedPathVerif.Lemmas.WinPush
import TypedPathVerif.Lemmas.NormFold

namespace TP.C08

open JoinRules

/-- For every base `a` without a verbatim prefix and every `b`: the result's bytes are what the
documented rules prescribe — `a` for an empty `b`; `b` when `b` has a prefix; `a`'s raw prefix
followed by `b` when `b` starts with a separator; otherwise `a`, one `\` unless `a` is empty,
already ends in a separator of either kind or is a bare drive, then `b`. -/
theorem win_push_bytes (a b : Bytes) (h : rule a b ≠ .verbatim) :
    windowsPush a b = joinBytes a b := by
  rw [windowsPush_eq]
  unfold joinBytes
  unfold rule at h ⊢
  by_cases hb : b = []
  · simp [hb]
  by_cases hp : (prefixOf b).isSome = true
  · simp [hb, hp]
  by_cases hv : baseIsVerbatim a = true
  · simp [hb, hp, hv] at h
  by_cases hr : startsWithSep b = true
  · simp [hb, hp, hv, hr]
  · simp [hb, hp, hv, hr]

/-- Under a verbatim prefix the result is the re-rendering of `a`'s components followed by
`b`'s, normalised as documented (`.` dropped, `..` cancels a preceding normal component only,
a root resets to the prefix). -/
theorem win_push_verbatim (a b : Bytes) (h : rule a b = .verbatim) :
    windowsPush a b = verbatimRender false (verbatimComps (comps .windows a) (comps .windows b)) := by
  rw [windowsPush_eq]
  unfold rule at h
  by_cases hb : b = []
  · simp [hb] at h
  by_cases hp : (prefixOf b).isSome = true
  · simp [hb, hp] at h
  by_cases hv : baseIsVerbatim a = true
  · rw [if_neg hb, if_neg hp, if_pos hv]
    rfl
  · rw [if_neg hb, if_neg hp, if_neg hv] at h
    split at h <;> cases h

/-- the scan drops every `.` of `b` -/
theorem verbatimFold_no_cur_added (buf : List Comp) : ∀ (cb : List Comp),
    (∀ c ∈ verbatimFold buf cb, c = .cur → c ∈ buf) := fun cb =>
  verbatimFold_all cb buf (fun _ hc _ => hc) (fun _ _ hne hcur => absurd hcur hne)

theorem win_push_empty (a : Bytes) : windowsPush a [] = a := by simp [windowsPush]

/-- sequences of pushes from a buffer (`Extend` / `FromIterator` = repeated push) -/
def pushes (buf : Bytes) : List Bytes → Bytes
  | [] => buf
  | p :: ps => pushes (push .windows buf p) ps

theorem pushes_follow_rules (buf : Bytes) (ps : List Bytes)
    (h : ∀ (pre : List Bytes) (p : Bytes) (post : List Bytes), ps = pre ++ p :: post →
      rule (pushes buf pre) p ≠ .verbatim) :
    pushes buf ps = ps.foldl joinBytes buf := by
  induction ps generalizing buf with
  | nil => rfl
  | cons p ps ih =>
    have hpush : push .windows buf p = joinBytes buf p := win_push_bytes buf p (h [] p ps rfl)
    show pushes (push .windows buf p) ps = ps.foldl joinBytes (joinBytes buf p)
    rw [hpush]
    refine ih _ fun pre q post hq => ?_
    have hq' := h (p :: pre) q post (congrArg (p :: ·) hq)
    rwa [show pushes buf (p :: pre) = pushes (joinBytes buf p) pre from congrArg (pushes · pre) hpush] at hq'

/-- K3 witness: `\\` + `a` is `\\a`, whose only component is a UNC prefix, although the base's
only component was the root. -/
theorem win_push_K3_witness :
    windowsPush [92, 92] [97] = [92, 92, 97] ∧ rule [92, 92] [97] = .append ∧
    comps .windows [92, 92] = [.root] ∧
    comps .windows [92, 92, 97] = [.pfx ⟨[92, 92, 97], .unc [97] []⟩] := by
  refine ⟨?_, by decide +kernel, ?_, ?_⟩
  · rw [win_push_bytes _ _ (by decide +kernel)]
    decide +kernel
  · rw [C03.comps_new_closed]
    decide +kernel
  · rw [C03.comps_new_closed]
    decide +kernel

-- `C:\a` + `b` = `C:\a\b`, `C:` + `a` = `C:a`, `C:\a` + `\b` = `C:\b`, `\\?\C:\a` + `..`, `a/` + `b` = `a/b`

example : rule [67, 58, 92, 97] [98] = .append ∧ joinBytes [67, 58, 92, 97] [98] = [67, 58, 92, 97, 92, 98] := by decide +kernel
example : rule [67, 58] [97] = .append ∧ joinBytes [67, 58] [97] = [67, 58, 97] := by decide +kernel
example : rule [67, 58, 92, 97] [92, 98] = .rooted ∧ joinBytes [67, 58, 92, 97] [92, 98] = [67, 58, 92, 98] := by decide +kernel
example : rule [92, 92, 63, 92, 67, 58, 92, 97] [46, 46] = .verbatim := by decide +kernel
example : joinBytes [97, 47] [98] = [97, 47, 98] := by decide +kernel

end TP.C08
