/-
Props/C18.lean — Every operation is total: no panic, no unbounded loop.  The parsers step by step,
the three partial operations outside them, and the table of all such sites in the source.

`Model/Comb/*` transcribes the parser combinators (`src/common/non_utf8/parser.rs`) and the
Unix and Windows component / prefix parsers function by function at BYTE level, with

* every slice index (`&input[a..b]`, `input[0]`), every `usize` subtraction and every
  `.unwrap()` written as a CHECKED operation whose failure is the result `Fault.panic`, and
* every `while` loop given `input.len() + 1` iterations of fuel, running out of which is the
  result `Fault.diverge`.

The theorems below say that, for EVERY byte string and EVERY sequence of front/back steps, these
state machines never produce a fault, and return step by step exactly the components and the
remaining bytes of the token-level parser (`Model/Parser.lean`) about which all other
properties are proved.  Together with `C03.dei_exhaust` and `C18b.comps_length_le` this also bounds
the number of successful steps by the length of the input plus one.

The operations outside the parsers (Path / PathBuf / Encoding methods) are total functions in the
model by Lean's termination checker; their partial-operation sites are covered by
`set_ext_cut_in_range`, `hash_index_in_range`, `checked_count_no_underflow`, and
`partial_sites_covered` compares the list of sites regenerated from the source with the one these
theorems were written against.  What is NOT covered is
stated in DESIGN.md §5 (C18): stack depth / allocation / time of the Rust code are explored
(catch_unwind + time limit), not proved.
-/
import TypedPathVerif.Lemmas.CombSim
import TypedPathVerif.Lemmas.CombOps
import TypedPathVerif.Props.C03
import TypedPathVerif.Props.C13
import TypedPathVerif.Generated.Partial

namespace TP.C18

open TP.Comb

/-- run a sequence of steps (`true` = from the back) on a fault-capable parser state machine; a
failed step leaves the state as it is; a fault ends the run -/
def runC {σ : Type} (front back : σ → Step σ) : σ → List Bool → Except Fault (List (Option Comp) × σ)
  | s, [] => .ok ([], s)
  | s, b :: bs =>
    match (if b then back s else front s) with
    | .some c s' =>
      match runC front back s' bs with
      | .ok r => .ok (some c :: r.1, r.2)
      | .error f => .error f
    | .none =>
      match runC front back s bs with
      | .ok r => .ok (none :: r.1, r.2)
      | .error f => .error f
    | .fault f => .error f

theorem runC_sim {σ : Type} (front back : σ → Step σ) (R : σ → PState → Prop)
    (hf : ∀ c s, R c s → match s.nextFront with
      | some (x, s') => ∃ c', front c = .some x c' ∧ R c' s'
      | none => front c = .none)
    (hb : ∀ c s, R c s → match s.nextBack with
      | some (x, s') => ∃ c', back c = .some x c' ∧ R c' s'
      | none => back c = .none)
    (steps : List Bool) : ∀ (c : σ) (s : PState), R c s →
      ∃ c', runC front back c steps = .ok ((runSteps s steps).1, c') ∧ R c' (runSteps s steps).2 := by
  induction steps with
  | nil =>
    intro c s h
    exact ⟨c, rfl, h⟩
  | cons b bs ih =>
    intro c s h
    have h1 : match (if b then s.nextBack else s.nextFront) with
        | some (x, s') => ∃ c', (if b then back c else front c) = .some x c' ∧ R c' s'
        | none => (if b then back c else front c) = .none := by
      cases b
      · exact hf c s h
      · exact hb c s h
    simp only [runC, runSteps]
    cases hn : (if b then s.nextBack else s.nextFront) with
    | none =>
      rw [hn] at h1
      obtain ⟨c', hr, hR⟩ := ih c s h
      exact ⟨c', by simp [h1, hr], hR⟩
    | some p =>
      obtain ⟨x, s'⟩ := p
      rw [hn] at h1
      obtain ⟨c1, hc1, hR1⟩ := h1
      obtain ⟨c', hr, hR⟩ := ih c1 s' hR1
      exact ⟨c', by simp [hc1, hr], hR⟩

/-- **Unix parser never panics or diverges.** For every byte string and every sequence of
`next` / `next_back` calls, the byte-level transcription of the Unix parser — every index and
subtraction checked, every loop fuelled by the input length — returns normally, and what it
returns (components, then `remaining()`) is what the token-level model returns. -/
theorem unix_parser_total (b : Bytes) (steps : List Bool) :
    ∃ c', runC Unix.St.nextFront Unix.St.nextBack (Unix.St.new b) steps
        = .ok ((runSteps (Enc.new .unix b) steps).1, c') ∧
      c'.remaining = (runSteps (Enc.new .unix b) steps).2.remaining := by
  obtain ⟨c', h1, h2⟩ := runC_sim Unix.St.nextFront Unix.St.nextBack Unix.Sim
    (fun _ _ h => Unix.sim_front h) (fun _ _ h => Unix.sim_back h) steps _ _ (Unix.sim_new b)
  exact ⟨c', h1, Unix.sim_remaining h2⟩

/-- **Windows parser never panics or diverges** — including `Parser::new` (the `.unwrap()` of
`maybe(prefix_component)`, the six prefix alternatives with their `consumed` arithmetic) and the
prefix-length slice arithmetic of `next_front` / `next_back`. -/
theorem windows_parser_total (b : Bytes) (steps : List Bool) :
    ∃ c0, Windows.St.new b = .ok c0 ∧
      ∃ c', runC Windows.St.nextFront Windows.St.nextBack c0 steps
          = .ok ((runSteps (Enc.new .windows b) steps).1, c') ∧
        c'.remaining = (runSteps (Enc.new .windows b) steps).2.remaining := by
  obtain ⟨c0, hn, hs⟩ := Windows.sim_new b
  obtain ⟨c', h1, h2⟩ := runC_sim Windows.St.nextFront Windows.St.nextBack Windows.Sim
    (fun _ _ h => Windows.sim_front h) (fun _ _ h => Windows.sim_back h) steps _ _ hs
  exact ⟨c0, hn, c', h1, Windows.sim_remaining h2⟩

/-- the combinator machines therefore return, for every interleaving, what taking from the two
ends of the forward component list returns (C03 carried down to the byte level) -/
theorem unix_comb_interleave (b : Bytes) (steps : List Bool) :
    ∃ c', runC Unix.St.nextFront Unix.St.nextBack (Unix.St.new b) steps
        = .ok ((takeSteps (comps .unix b) steps).1, c') := by
  obtain ⟨c', h, _⟩ := unix_parser_total b steps
  exact ⟨c', by rw [h, (C03.dei_interleave .unix b steps).1]⟩

theorem windows_comb_interleave (b : Bytes) (steps : List Bool) :
    ∃ c0, Windows.St.new b = .ok c0 ∧
      ∃ c', runC Windows.St.nextFront Windows.St.nextBack c0 steps
          = .ok ((takeSteps (comps .windows b) steps).1, c') := by
  obtain ⟨c0, hn, c', h, _⟩ := windows_parser_total b steps
  exact ⟨c0, hn, c', by rw [h, (C03.dei_interleave .windows b steps).1]⟩

/-- **`Encoding::hash` never indexes out of range** (both encodings): the loop with `path[i]`,
`&path[component_start..i]`, `&path[component_start..]` and `&path[prefix_len..]` written with
checked indexing returns normally, and writes exactly the model's chunk sequence. -/
theorem hash_index_in_range (e : Enc) (b : Bytes) :
    Ops.hashChunksC e b = some (hashChunks e b) := by
  cases e with
  | unix => exact Ops.hashBodyC_eq _ _ _ _ _
  | windows =>
    simp only [Ops.hashChunksC, hashChunks]
    cases hp : wPrefix b with
    | none => exact Ops.hashBodyC_eq _ _ _ _ _
    | some p =>
      have hle := Ops.wPrefix_raw_le b p hp
      simp only [sliceFrom, hle, if_true]
      exact Ops.hashBodyC_eq _ _ _ _ _

/-- **`normal_cnt -= 1` in `push_checked` never underflows** (both encodings), for every
component list and every starting count. -/
theorem checked_count_no_underflow (e : Enc) (cs : List Comp) (n : Nat) :
    Ops.checkedScanC e n cs = some (checkedScan e n cs) := by
  -- cases follow `checkedScan`: [], prefix, root, `..` at count 0, `..` at a positive count,
  -- invalid name, valid name, `.`
  fun_induction checkedScan e n cs with
  | case1 n => rfl
  | case2 n cs p => rfl
  | case3 n cs => rfl
  | case4 cs => rfl
  | case5 n cs hn ih =>
    have : checkedSub n 1 = some (n - 1) := by
      rw [checkedSub, if_pos (by omega)]
    simp only [Ops.checkedScanC, hn, if_false, this, ih]
  | case6 n cs s hs => simp only [Ops.checkedScanC, hs, if_true]
  | case7 n cs s hs ih => simp only [Ops.checkedScanC, hs, Bool.false_eq_true, if_false, ih]
  | case8 n cs ih => simpa only [Ops.checkedScanC] using ih

/-- **`set_extension`: `end_file_stem - start` is in range and `truncate` cuts inside the buffer**,
at a position followed by `.`, a separator, a `.` segment or nothing — never inside a name, so on
a character boundary of every UTF-8 buffer (`String::truncate` does not panic). -/
theorem set_ext_cut_in_range (e : Enc) (b x f : Bytes) (h : fileName e b = some f) :
    ∃ cut, cut ≤ b.length ∧ (setExtension e b x).1 = b.take cut ++ (if x = [] then [] else DOT :: x) ∧
      ((b.drop cut) = [] ∨ (b.drop cut).head? = some DOT ∨
        ∃ t j, junk (e.new b).k t = true ∧ b.drop cut = untoks (t :: j)) := by
  obtain ⟨pre, st, after, hb, _, hset, hafter⟩ := C13.set_ext_cut_boundary e b x f h
  have htake : b.take (pre ++ st).length = pre ++ st := by rw [hb]; exact List.take_left' rfl
  have hdrop : b.drop (pre ++ st).length = after := by rw [hb]; exact List.drop_left' rfl
  refine ⟨(pre ++ st).length, ?_, ?_, ?_⟩
  · rw [hb, List.length_append (as := pre ++ st)]; omega
  · rw [hset, htake]
  · rw [hdrop]; exact hafter

/-! ### the table of partial-operation sites, regenerated from the source on every run

`gen/partial.py` counts, per non-test source file, the sites of
`[indexing, unwrap/expect, subtraction, truncate, while/loop, panicking macro, unsafe]`.
`coveredSites` is the table those theorems were written against; each row says what covers it.
A new, removed or moved site changes the generated table and breaks `partial_sites_covered`. -/

def coveredSites : List (String × List Nat) := [
  -- slices of take_until_byte / rtake_until_byte / take / bytes / byte, `len - input.len()`,
  -- `len - 1`, the one_or_more loop and its `next.unwrap()`: Model/Comb/Core.lean, never faulting
  -- by unix_parser_total / windows_parser_total
  ("src/common/non_utf8/parser.rs", [9, 1, 2, 0, 1, 0, 0]),
  -- the `loop` of iter_after: consumes one component of `iter` per iteration (structural
  -- recursion in Model/Path.lean); unsafe: repr(transparent) casts (modelled, not verified; C19)
  ("src/common/non_utf8/path.rs", [0, 0, 0, 0, 1, 0, 7]),
  -- pop: truncate(parent length) (parent_is_prefix, C09); set_extension: set_ext_cut_in_range
  ("src/common/non_utf8/pathbuf.rs", [0, 0, 1, 2, 0, 0, 1]),
  ("src/common/utf8/path.rs", [0, 0, 0, 0, 1, 0, 8]),
  -- String::truncate needs a character boundary: set_ext_cut_in_range + C14 (parent of a valid
  -- buffer is valid); unsafe: from_utf8_unchecked / as_mut_vec, justified by C14.mutations_valid
  ("src/common/utf8/pathbuf.rs", [0, 0, 1, 2, 0, 0, 2]),
  -- hash loop: hash_index_in_range; normal_cnt: checked_count_no_underflow
  ("src/unix/non_utf8.rs", [4, 0, 1, 0, 0, 0, 0]),
  ("src/unix/utf8.rs", [0, 0, 0, 0, 0, 0, 2]),
  -- `&input[..1]` ("preserve root dir") and move_back_to_next's loop: unix_parser_total
  ("src/unix/non_utf8/components/parser.rs", [1, 0, 0, 0, 1, 0, 0]),
  ("src/unix/utf8/components.rs", [0, 0, 0, 0, 0, 0, 3]),
  ("src/unix/utf8/components/component.rs", [0, 0, 0, 0, 0, 0, 1]),
  -- hash loop incl. `&path[prefix_len..]`: hash_index_in_range; normal_cnt:
  -- checked_count_no_underflow; Vec::truncate (rules 2 and 3 of push) cannot panic
  ("src/windows/non_utf8.rs", [7, 0, 1, 2, 0, 0, 0]),
  ("src/windows/utf8.rs", [0, 0, 0, 0, 0, 0, 2]),
  -- `.expect(..)` under `cfg!(windows)`: unreachable on this host (not covered)
  ("src/windows/non_utf8/components/component.rs", [0, 1, 0, 0, 0, 0, 0]),
  -- Parser::new's unwrap, the prefix-length slices of next_front / next_back, `input[0]`,
  -- `&input[1..]`, `&input[..1]`, prefix_component's `input.len() - new_input.len()`,
  -- `drive_letter[0]`, move_back_to_next's loop: windows_parser_total
  ("src/windows/non_utf8/components/parser.rs", [12, 1, 1, 0, 1, 0, 0]),
  ("src/windows/utf8/components.rs", [0, 0, 0, 0, 0, 0, 3]),
  ("src/windows/utf8/components/component.rs", [0, 0, 0, 0, 0, 0, 1]),
  ("src/windows/utf8/components/component/prefix.rs", [0, 0, 0, 0, 0, 0, 2])
]

/-- the source has exactly the partial-operation sites the theorems above were written for -/
theorem partial_sites_covered : Generated.partialSites = coveredSites := rfl

-- `/a/./b`, stepped front, back, back, front: `/`, `b`, `a`, then nothing (the `.` is skipped)

example : runC Unix.St.nextFront Unix.St.nextBack (Unix.St.new [47, 97, 47, 46, 47, 98]) [false, true, true, false]
    = .ok ([some .root, some (.normal [98]), some (.normal [97]), none], { input := [], atBeg := false }) := by
  rfl

/-- an out-of-range index is a fault in this model (so "never faults" says something) -/
example : sliceFrom [1, 2] 3 = none ∧ checkedSub 1 2 = none ∧
    oneOrMoreLoop (byte 47) 1 [47, 47] [] = .fault .diverge := ⟨rfl, rfl, rfl⟩

end TP.C18
