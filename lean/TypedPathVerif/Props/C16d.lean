/-
Props/C16d.lean — C16 continued: the CHECKED conversions.

The checked conversion is the unchecked one guarded by the first error among the checked pushes of the source's
names (`convFoldChecked_eq`, Lemmas/ConvStep): root, `.` and `..` are pushed unchecked and never fail it, and the
verdict of a checked push does not depend on the buffer.  Hence a success returns the unchecked conversion's
bytes, both directions and all inputs (`conv_checked_ok_eq_unchecked`), and a rejected name fails the whole
conversion (`conv_checked_fails_on_name`).  A name with a byte the target forbids is rejected
(`push_checked_rejects_forbidden`), unless the byte is a separator of the target, which splits the name
instead: K4.
-/
import TypedPathVerif.Props.C16
import TypedPathVerif.Props.C04

namespace TP.C16d

theorem convFoldChecked_ok (t : Enc) (cs : List Comp) (buf r : Bytes)
    (h : convFoldChecked t buf cs = .ok r) : r = convFold t buf cs := by
  rw [convFoldChecked_eq] at h
  cases hf : cs.findSome? (convErr t) with
  | some e =>
    rw [hf] at h
    cases h
  | none =>
    rw [hf] at h
    exact (Except.ok.inj h).symm

theorem conv_checked_same_valid (e : Enc) (b r : Bytes) :
    withEncodingChecked e e b = .ok r ↔ (isValid e b = true ∧ r = b) := by
  rw [C16.conv_checked_same_label]
  split
  · rename_i hv
    exact ⟨fun h => ⟨hv, (Except.ok.inj h).symm⟩, fun h => congrArg Except.ok h.2.symm⟩
  · rename_i hv
    simp [hv]

/-- **A checked conversion that succeeds returns the unchecked conversion's bytes.** -/
theorem conv_checked_ok_eq_unchecked (s t : Enc) (b r : Bytes) (h : withEncodingChecked s t b = .ok r) :
    r = withEncoding s t b := by
  by_cases hst : s = t
  · subst hst
    rw [C16.conv_same_label]
    exact ((conv_checked_same_valid s b r).mp h).2
  · rw [withEncodingChecked_ne hst] at h
    rw [withEncoding_ne hst]
    exact convFoldChecked_ok t _ [] r h

theorem conv_checked_fails_on_name (t : Enc) : ∀ (cs : List Comp) (buf : Bytes) (pre : List Comp) (c : Comp) (post : List Comp),
    cs = pre ++ c :: post → c.isNormal = true →
    (∀ r, convFoldChecked t buf pre = .ok r → ∃ e, pushChecked t r (c.bytes t) = .error e) →
    ∃ e, convFoldChecked t buf cs = .error e := by
  intro cs buf pre c post hcs hn hfail
  rw [hcs, convFoldChecked_eq, List.findSome?_append]
  rw [convFoldChecked_eq] at hfail
  cases hpre : pre.findSome? (convErr t) with
  | some e => exact ⟨e, rfl⟩
  | none =>
    -- the names before `c` pass, so the push of `c` is tried, and its verdict ignores the buffer
    rw [hpre] at hfail
    obtain ⟨e, he⟩ := hfail _ rfl
    cases c with
    | normal s =>
      simp only [pushChecked, Comp.bytes] at he
      cases hs : checkedScan t 0 (comps t s) with
      | none =>
        rw [hs] at he
        cases he
      | some e' => exact ⟨e', by simp [convErr, hs]⟩
    | _ => cases hn

/-- separators of the target encoding (either slash on Windows) -/
def tsep : Enc → UInt8 → Bool
  | .unix, y => usep y
  | .windows, y => anySep y

theorem new_toks_wf_tsep (t : Enc) (b : Bytes) :
    ∃ f : UInt8 → Bool, WFToks f (t.new b).toks ∧ ∀ y, f y = true → tsep t y = true := by
  cases t with
  | unix => exact ⟨usep, WFToks_toks usep b, fun _ h => h⟩
  | windows =>
    simp only [Enc.new]
    split <;> exact ⟨_, WFToks_toks _ _, fun y h => Win.wsep_imp_anySep h⟩

/-- **A name containing a target-forbidden byte is rejected by the checked push** (unless that
byte is a separator of the target: then the name is split instead — known finding K4). -/
theorem push_checked_rejects_forbidden (t : Enc) (buf name : Bytes) (y : UInt8) (hy : y ∈ name)
    (hf : (forbidden t).contains y = true) (hns : tsep t y = false) :
    ∃ e, pushChecked t buf name = .error e := by
  unfold pushChecked
  cases hs : checkedScan t 0 (comps t name) with
  | some err => exact ⟨err, rfl⟩
  | none =>
    exfalso
    obtain ⟨hplain, _⟩ := (C04.scan_none_iff t _ 0).mp hs
    rw [C03.comps_new_closed] at hplain
    rw [← new_remaining t name, PState.remaining] at hy
    rcases List.mem_append.mp hy with hy | hy
    · -- in the prefix text: the path has a prefix component
      cases hp : (t.new name).pre with
      | none => simp [PState.preBytes, hp] at hy
      | some p => cases (hplain (.pfx p) (by rw [hp]; simp)).1
    · obtain ⟨tok, htok, hyt⟩ := mem_untoks hy
      obtain ⟨f, hw, hsub⟩ := new_toks_wf_tsep t name
      cases tok with
      | sep x =>
        simp only [Tok.bytes, List.mem_singleton] at hyt
        subst hyt
        have := hsub y (hw.sep_mem y htok)
        rw [hns] at this
        cases this
      | seg s =>
        simp only [Tok.bytes] at hyt
        by_cases hn : s = CUR ∨ s = PAR
        · -- `.` or `..`: the byte would be a dot, which no encoding forbids
          have hdot : y = DOT := by
            rcases hn with rfl | rfl
            · simpa [CUR] using hyt
            · simpa [PAR] using hyt
          subst hdot
          cases t <;> revert hf <;> decide
        · -- a name: it is a component, and the scan accepted it
          have hv := (hplain (.normal s) (List.mem_append_right _
            (normal_mem_of_seg htok (fun h => hn (.inl h)) (fun h => hn (.inr h))))).2.2
          simp only [Comp.isValid, Bool.not_eq_true', List.any_eq_false] at hv
          exact hv y hyt hf

/-- **It fails whenever a source name contains a byte the target forbids** (other than a target
separator): the conversion of a path one of whose names contains such a byte is an error. -/
theorem conv_checked_fails_forbidden (s t : Enc) (b : Bytes) (hst : s ≠ t) (nm : Bytes) (y : UInt8)
    (hmem : Comp.normal nm ∈ comps s b) (hy : y ∈ nm)
    (hf : (forbidden t).contains y = true) (hns : tsep t y = false) :
    ∃ e, withEncodingChecked s t b = .error e := by
  rw [withEncodingChecked_ne hst]
  obtain ⟨pre, post, hsplit⟩ := List.append_of_mem hmem
  refine conv_checked_fails_on_name t _ [] pre (.normal nm) post hsplit rfl ?_
  intro r _
  exact push_checked_rejects_forbidden t r nm y hy hf hns

-- the hypothesis of `conv_checked_ok_eq_unchecked` can be met: the K4 witness is a successful checked conversion
example : withEncoding .unix .windows [97, 92, 98] = [97, 92, 98] :=
  (conv_checked_ok_eq_unchecked .unix .windows _ _ C16.conv_checked_K4_witness.1).symm

end TP.C16d
