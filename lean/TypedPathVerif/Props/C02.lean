/-
Props/C02.lean — Windows paths decompose per the documented prefix and separator grammar.

Proved here, for every byte string: at most one prefix, only in first position, its raw text
is the leading bytes (`win_prefix_unique_first`, `win_prefix_raw`); a drive letter is an
upper-case ASCII letter (`win_drive_ascii_upper`); after the prefix the components are exactly
`WinGrammar.bodySpec` — optional root, split on `\` (and `/` unless the path starts with exactly
`\\?\`), `.` kept only at the start of the path unless verbatim, repeated and trailing
separators produce nothing (`win_decomp`); every query is the obvious function of that
decomposition (`win_queries`), with the kind sets taken from the *generated* `matches!` arms.

The byte-level prefix parser (six ordered alternatives with `not(...)` guards, Model/Enc.lean) is
characterised exactly by the grammar `Win.Shape` of prefix texts (`Win.parsePrefix_iff`,
Lemmas/WinPrefix.lean) and kind by kind in Props/C02b and Props/C02c.  That this grammar is
the documented one is not a theorem: the harness's independent grammar (harness/src/spec.rs
`win_prefix`, DESIGN.md A.2) is compared with the implementation on the near-miss domain on every run.
-/
import TypedPathVerif.Lemmas.Split
import TypedPathVerif.Lemmas.WinPush

namespace TP.C02

open WinGrammar

/-- **The decomposition**: the components of every byte string read as a Windows path are the
parsed prefix (if any) followed by `bodySpec` of the remaining bytes. -/
theorem win_decomp (b : Bytes) : comps .windows b = decomp b := by
  unfold decomp sepSet verb
  cases h : parsePrefixComp b with
  | none =>
    have hn : startsWith b VERB = false :=
      Bool.not_eq_eq_eq_not.mp (Win.normOf_of_no_prefix (parsePrefix_none_of_comp h))
    rw [comps_of_no_prefix h, compsT_eq_bodySpec, hn]
    rfl
  | some x =>
    have hn : Win.normOf x.1.raw = !startsWith b VERB := Win.normOf_raw h
    rw [comps_of_parse h, compsT_eq_bodySpec, hn, Bool.not_not]

theorem bodySpec_no_pfx (isSep : UInt8 → Bool) (k : Bool) (rest : Bytes) :
    ∀ c ∈ bodySpec isSep k rest, c.isPfx = false := by
  rw [← compsT_eq_bodySpec]
  exact compsT_noPfx k _

/-- At most one prefix, and only in first position. -/
theorem win_prefix_unique_first (b : Bytes) :
    ∀ c ∈ (comps .windows b).tail, c.isPfx = false := by
  rw [win_decomp]
  unfold decomp
  cases parsePrefixComp b with
  | none =>
    intro c hc
    exact bodySpec_no_pfx _ _ b c (List.mem_of_mem_tail hc)
  | some x =>
    obtain ⟨p, rest⟩ := x
    simp only [List.tail_cons]
    exact bodySpec_no_pfx _ _ rest

/-- The prefix's raw text is the leading bytes of the input, and `prefix_len` is its length. -/
theorem win_prefix_raw (b : Bytes) (p : PrefixComp) (h : wPrefix b = some p) :
    (∃ rest, p.raw ++ rest = b) ∧ wPrefixLen b = p.raw.length := by
  rw [C08.wPrefix_eq] at h
  refine ⟨C08.prefixOf_some h, ?_⟩
  rw [C08.wPrefixLen_eq]
  unfold JoinRules.rawPrefix
  rw [h]

theorem toAsciiUpper_upper {x : UInt8} (hx : isAsciiAlpha x = true) : 65 ≤ toAsciiUpper x ∧ toAsciiUpper x ≤ 90 := by
  simp only [isAsciiAlpha, Bool.and_eq_true, Bool.or_eq_true, decide_eq_true_eq] at hx
  unfold toAsciiUpper
  rcases hx with ⟨h1, h2⟩ | ⟨h1, h2⟩
  · have : ¬ (97 ≤ x ∧ x ≤ 122) := by
      intro ⟨h3, _⟩
      have : (97 : UInt8) ≤ 90 := UInt8.le_trans h3 h2
      exact absurd this (by decide)
    simp only [Bool.and_eq_true, decide_eq_true_eq, this, if_false]
    exact ⟨h1, h2⟩
  · simp only [Bool.and_eq_true, decide_eq_true_eq, h1, h2, and_self, if_true]
    rw [UInt8.le_iff_toNat_le, UInt8.le_iff_toNat_le] at *
    have e : (x - 32).toNat = x.toNat - 32 := by
      rw [UInt8.toNat_sub_of_le]
      · rfl
      · rw [UInt8.le_iff_toNat_le]; simp at h1 ⊢; omega
    simp at h1 h2
    rw [e]
    simp
    -- in ℕ, no wrap-around by `e`: `97 ≤ x.toNat`, `x.toNat ≤ 122` ⊢ `65 ≤ x.toNat - 32 ∧ x.toNat ≤ 122`
    omega

/-- A disk or verbatim-disk prefix carries an upper-case ASCII drive letter. -/
theorem win_drive_ascii_upper (b : Bytes) (k : WPrefix) (rest : Bytes) (h : parsePrefix b = some (k, rest)) :
    ∀ d, (k = .disk d ∨ k = .verbatimDisk d) → 65 ≤ d ∧ d ≤ 90 := by
  obtain ⟨_, _, hs⟩ := Win.parsePrefix_iff.mp h
  rintro d (rfl | rfl)
  · cases hs with
    | disk hd => exact toAsciiUpper_upper hd
  · cases hs with
    | verbatimDisk _ _ _ hd => exact toAsciiUpper_upper hd

/-- the kind sets the prefix-kind queries test, as extracted from the `matches!` arms of the
source, are the documented ones (byte and UTF-8 copies) -/
theorem kind_sets_eq :
    Generated.anyVerbatimTags = [0, 1, 2] ∧ Generated.anyVerbatimTagsUtf8 = [0, 1, 2] ∧
    Generated.isVerbatimTags = [0, 1, 2] ∧ Generated.isVerbatimTagsUtf8 = [0, 1, 2] ∧
    Generated.verbatimTags = [0] ∧ Generated.verbatimUNCTags = [1] ∧ Generated.verbatimDiskTags = [2] ∧
    Generated.deviceNSTags = [3] ∧ Generated.uncTags = [4] ∧ Generated.diskTags = [5] ∧
    Generated.verbatimTagsUtf8 = [0] ∧ Generated.verbatimUNCTagsUtf8 = [1] ∧
    Generated.verbatimDiskTagsUtf8 = [2] ∧ Generated.deviceNSTagsUtf8 = [3] ∧ Generated.uncTagsUtf8 = [4] ∧
    Generated.diskTagsUtf8 = [5] ∧
    Generated.prefixEnumOrder = [0, 1, 2, 3, 4, 5] ∧ Generated.prefixEnumOrderUtf8 = [0, 1, 2, 3, 4, 5] := by
  decide

/-! the root queries as functions of the component list -/

def physRootOf : List Comp → Bool
  | .root :: _ => true
  | .pfx _ :: .root :: _ => true
  | _ => false

def absoluteOf : List Comp → Bool
  | .pfx _ :: .root :: _ => true
  | _ => false

def hasRootOf : List Comp → Bool
  | .root :: _ => true
  | .pfx p :: rest =>
    (match p.kind with
     | .disk _ | .verbatimDisk _ => (match rest with | .root :: _ => true | _ => false)
     | _ => true)
  | _ => false

def implicitRootOf : List Comp → Bool
  | .pfx p :: _ => (match p.kind with | .disk _ => false | _ => true)
  | _ => false

/-- `has_physical_root`, `is_absolute` and `has_root` look at no more than the first two front steps. -/
theorem two_fronts (s : PState) :
    (s.nextFront = none ∧ s.comps = []) ∨
    ∃ c st, s.nextFront = some (c, st) ∧
      ((st.nextFront = none ∧ s.comps = [c]) ∨
        ∃ c2 st2, st.nextFront = some (c2, st2) ∧ s.comps = c :: c2 :: st2.comps) := by
  cases hf : s.nextFront with
  | none => exact .inl ⟨rfl, comps_of_front_none hf⟩
  | some r =>
    obtain ⟨c, st⟩ := r
    refine .inr ⟨c, st, rfl, ?_⟩
    rw [front_comps hf]
    cases hf2 : st.nextFront with
    | none => exact .inl ⟨rfl, by rw [comps_of_front_none hf2]⟩
    | some r2 =>
      obtain ⟨c2, st2⟩ := r2
      exact .inr ⟨c2, st2, rfl, by rw [front_comps hf2]⟩

theorem root_queries_eq (b : Bytes) :
    wHasPhysicalRoot b = physRootOf (decomp b) ∧ isAbsolute .windows b = absoluteOf (decomp b) ∧
    hasRoot .windows b = hasRootOf (decomp b) := by
  rw [← win_decomp]
  simp only [wHasPhysicalRoot, isAbsolute, hasRoot, comps]
  rcases two_fronts (Enc.new .windows b) with ⟨h, hc⟩ | ⟨c, st, h, ⟨h2, hc⟩ | ⟨c2, st2, h2, hc⟩⟩
  · rw [h, hc]
    exact ⟨rfl, rfl, rfl⟩
  · rw [h, hc]
    cases c with
    | pfx p =>
      -- both sides of the third equation are now the same `match` on `p.kind`
      simp only [hasRootOf, h2]
      exact ⟨rfl, rfl, rfl⟩
    | _ => exact ⟨rfl, rfl, rfl⟩
  · rw [h, hc]
    cases c with
    | pfx p =>
      simp only [hasRootOf, h2]
      cases c2 <;> exact ⟨rfl, rfl, rfl⟩
    | _ => exact ⟨rfl, rfl, rfl⟩

/-- `prefix()` peeks at the first component. -/
theorem wPrefix_eq_head (b : Bytes) :
    wPrefix b = match comps .windows b with | .pfx p :: _ => some p | _ => none := by
  unfold wPrefix comps
  rw [comps_unfold]
  cases (Enc.new .windows b).nextFront with
  | none => rfl
  | some r =>
    obtain ⟨c, s⟩ := r
    cases c <;> rfl

theorem wHasImplicitRoot_eq (b : Bytes) : wHasImplicitRoot b = implicitRootOf (decomp b) := by
  unfold wHasImplicitRoot wPrefixKind
  rw [wPrefix_eq_head, win_decomp]
  cases decomp b with
  | nil => rfl
  | cons c r =>
    cases c with
    | pfx p =>
      simp only [Option.map_some, implicitRootOf]
      cases p.kind <;> rfl
    | _ => rfl

/-- Every query is the obvious function of the decomposition: prefix / has_prefix /
has_any_verbatim_prefix (exactly the three verbatim kinds) in terms of the parsed prefix, and
physical root, implicit root, root and absoluteness in terms of the component list. -/
theorem win_queries (b : Bytes) :
    wPrefix b = JoinRules.prefixOf b ∧
    wHasPrefix b = (JoinRules.prefixOf b).isSome ∧
    wHasAnyVerbatimPrefix b = JoinRules.baseIsVerbatim b ∧
    wHasImplicitRoot b = implicitRootOf (decomp b) ∧
    wHasPhysicalRoot b = physRootOf (decomp b) ∧
    isAbsolute .windows b = absoluteOf (decomp b) ∧
    hasRoot .windows b = hasRootOf (decomp b) :=
  ⟨C08.wPrefix_eq b, C08.wHasPrefix_eq b, C08.wHasAnyVerbatim_eq b, wHasImplicitRoot_eq b,
    root_queries_eq b⟩

-- the grammar on `C:\a/./b`, `\\?\C:\a\.\b/c` (verbatim: `.` kept, `/` inside a name), `.\.\a`

example : decomp [67, 58, 92, 97, 47, 46, 47, 98] =
    [.pfx ⟨[67, 58], .disk 67⟩, .root, .normal [97], .normal [98]] := by decide +kernel
example : decomp [92, 92, 63, 92, 67, 58, 92, 97, 92, 46, 92, 98, 47, 99] =
    [.pfx ⟨[92, 92, 63, 92, 67, 58], .verbatimDisk 67⟩, .root, .normal [97], .cur, .normal [98, 47, 99]] := by decide +kernel
example : decomp [46, 92, 46, 92, 97] = [.cur, .normal [97]] := by decide +kernel

end TP.C02
