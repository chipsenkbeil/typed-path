/-
Props/C16b.lean — the append lemma for prefix-free Windows buffers (`win_push_comps_pf`), with it the render
lemma for Windows (`win_render_parsed`), and from that the Unix → Windows direction and the round trips of C16.

"Prefix-free" (`C16.pfxStart b = false`) = does not start with two separators of either kind
nor with an ASCII letter and `:`; such a string has no prefix and is not verbatim, so it is
parsed exactly like a Unix path with the separator set { `\`, `/` }.  (A base that starts with
two separators is known finding K3 and is outside this fragment.)
-/
import TypedPathVerif.Props.C16
import TypedPathVerif.Props.C05
import TypedPathVerif.Lemmas.WinPush
import TypedPathVerif.Lemmas.WinGlue

namespace TP.C16b

open C16

/-- `pfxStart` looks at two bytes: only a one-byte buffer can start a prefix together with the first appended byte -/
theorem pfxStart_glue (a q : Bytes) (ha : pfxStart a = false) (hane : a ≠ [])
    (hrel : JoinRules.startsWithSep q = false) : pfxStart (a ++ Win.sepGlue a ++ q) = false := by
  rw [List.append_assoc]
  match a, hane with
  | x :: y :: r, _ => exact ha
  | [x], _ =>
    unfold Win.sepGlue
    rw [Win.endsWithSep_singleton]
    cases hx : anySep x with
    | true =>
      -- `x` is a separator, so no letter, and `q` starts with none
      rw [if_pos rfl, List.nil_append]
      cases q with
      | nil => rfl
      | cons y t =>
        have hys : anySep y = false := hrel
        rw [List.singleton_append, pfxStart_cons_cons, hys, (Win.anySep_ne hx).1, Bool.and_false]
        rfl
    | false =>
      -- `\` is written after `x`, and `\` is not a colon
      rw [if_neg Bool.false_ne_true, List.singleton_append, List.singleton_append, pfxStart_cons_cons, hx,
        show decide (BSLASH = COLON) = false from rfl, Bool.and_false]
      rfl

/-- (A) for prefix-free Windows buffers: pushing a non-empty, prefix-free, relative path onto a
non-empty prefix-free buffer appends its components (minus a leading `.`). -/
theorem win_push_comps_pf (a p : Bytes) (ha : pfxStart a = false) (hane : a ≠ []) (hpne : p ≠ [])
    (hp : pfxStart p = false) (hrel : JoinRules.startsWithSep p = false) :
    pfxStart (windowsPush a p) = false ∧
    comps .windows (windowsPush a p) = comps .windows a ++ dropLeadingCur (comps .windows p) := by
  have hbytes : windowsPush a p = a ++ Win.sepGlue a ++ p :=
    Win.windowsPush_glue hpne (Win.prefixOf_none_of_pf p hp) (by simp [JoinRules.baseIsVerbatim, Win.prefixOf_none_of_pf a ha])
      hrel hane (by simp [JoinRules.isBareDrive, Win.prefixOf_none_of_pf a ha])
  have hpf := pfxStart_glue a p ha hane hrel
  rw [hbytes]
  refine ⟨hpf, ?_⟩
  rw [win_comps_pf _ hpf, win_comps_pf a ha, win_comps_pf p hp]
  exact Win.compsT_glue a p hane hrel

/-- a name that is a good single component in both encodings: non-empty, not `.` / `..`, no
separator of either encoding, no `:` -/
def portable (s : Bytes) : Prop :=
  s ≠ [] ∧ s ≠ CUR ∧ s ≠ PAR ∧ ∀ y ∈ s, anySep y = false ∧ y ≠ COLON

theorem portable_pf {s : Bytes} (h : portable s) : pfxStart s = false ∧ JoinRules.startsWithSep s = false := by
  obtain ⟨h1, _, _, h4⟩ := h
  match s, h1 with
  | [x], _ => exact ⟨rfl, by simp [JoinRules.startsWithSep, (h4 x (by simp)).1]⟩
  | x :: y :: r, _ =>
    refine ⟨?_, by simp [JoinRules.startsWithSep, (h4 x (by simp)).1]⟩
    simp only [pfxStart, Bool.or_eq_false_iff, Bool.and_eq_false_iff, decide_eq_false_iff_not]
    exact ⟨Or.inl (h4 x (by simp)).1, Or.inr (h4 y (by simp)).2⟩

theorem win_comps_name {s : Bytes} (h : portable s) : comps .windows s = [.normal s] := by
  rw [win_comps_pf s (portable_pf h).1]
  exact compsT_name false ⟨h.1, fun y hy => (h.2.2.2 y hy).1, h.2.1, h.2.2.1⟩

/-- components that may follow the first one, with portable names -/
def tailP (c : Comp) : Prop := c = .parent ∨ ∃ s, c = .normal s ∧ portable s

theorem piece_facts {c : Comp} (h : tailP c) :
    c.bytes .windows ≠ [] ∧ pfxStart (c.bytes .windows) = false ∧
      JoinRules.startsWithSep (c.bytes .windows) = false ∧ comps .windows (c.bytes .windows) = [c] ∧
      dropLeadingCur [c] = [c] := by
  rcases h with h | ⟨s, h, hs⟩
  · subst h
    refine ⟨by simp [Comp.bytes, PAR], by decide, by decide, ?_, rfl⟩
    rw [win_comps_pf _ (by decide)]
    decide
  · subst h
    exact ⟨hs.1, (portable_pf hs).1, (portable_pf hs).2, win_comps_name hs, rfl⟩

theorem pushAll_tailP (rest : List Comp) (buf : Bytes) (hb : buf ≠ []) (hpf : pfxStart buf = false)
    (hall : ∀ x ∈ rest, tailP x) :
    comps .windows (pushAll .windows buf rest) = comps .windows buf ++ rest ∧
      pfxStart (pushAll .windows buf rest) = false := by
  let P : Bytes → Prop := fun b => b ≠ [] ∧ pfxStart b = false
  have hstep : ∀ b, ∀ c ∈ rest, P b → P (push .windows b (c.bytes .windows)) ∧
      comps .windows (push .windows b (c.bytes .windows)) = comps .windows b ++ [c] := by
    intro b c hc hP
    obtain ⟨h1, h2, h3, h4, h5⟩ := piece_facts (hall c hc)
    obtain ⟨hpf', hpush⟩ := win_push_comps_pf b (c.bytes .windows) hP.2 hP.1 h1 h2 h3
    rw [h4, h5] at hpush
    refine ⟨⟨fun h0 => ?_, hpf'⟩, hpush⟩
    rw [show windowsPush b (c.bytes .windows) = [] from h0, Win.comps_win_nil] at hpush
    exact List.cons_ne_nil _ _ (List.append_eq_nil_iff.mp hpush.symm).2
  obtain ⟨h1, h2⟩ := pushAll_comps rest buf hstep ⟨hb, hpf⟩
  exact ⟨h2, h1.2⟩

/-- Rendering parses back, as for Unix (`render_parsed`): a parsed list with portable names, pushed component by
component onto the empty buffer, parses to itself, and the bytes do not start like a prefix. -/
theorem win_render_parsed {f : UInt8 → Bool} (l : List Comp) (hP : Parsed f l)
    (hnames : ∀ s, Comp.normal s ∈ l → portable s) :
    comps .windows (pushAll .windows [] l) = l ∧ pfxStart (pushAll .windows [] l) = false := by
  cases l with
  | nil => exact ⟨Win.comps_win_nil, rfl⟩
  | cons c rest =>
    obtain ⟨hc, hrest⟩ := hP
    have toP : ∀ x, tailOKs f x → x ∈ c :: rest → tailP x := by
      intro x hx hm
      rcases hx with h | ⟨s, h, _⟩
      · exact Or.inl h
      · exact Or.inr ⟨s, h, hnames s (h ▸ hm)⟩
    have hrestP : ∀ x ∈ rest, tailP x := fun x hx => toP x (hrest x hx) (List.mem_cons_of_mem _ hx)
    -- the first component's text starts the buffer, the others are appended
    have key : c.bytes .windows ≠ [] → pfxStart (c.bytes .windows) = false →
        comps .windows (c.bytes .windows) = [c] →
        comps .windows (pushAll .windows [] (c :: rest)) = c :: rest ∧
          pfxStart (pushAll .windows [] (c :: rest)) = false := by
      intro h1 h2 h3
      rw [pushAll, C08.win_push_empty_base]
      obtain ⟨i1, i2⟩ := pushAll_tailP rest _ h1 h2 hrestP
      exact ⟨i1.trans (by rw [h3]; rfl), i2⟩
    rcases hc with rfl | rfl | hc
    · exact key (by decide) (by decide) (by rw [win_comps_pf _ (by decide)]; decide)
    · exact key (by decide) (by decide) (by rw [win_comps_pf _ (by decide)]; decide)
    · obtain ⟨h1, h2, _, h3, _⟩ := piece_facts (toP c hc (List.mem_cons_self ..))
      exact key h1 h2 h3

/-- Unix → Windows: a Unix path all of whose names are portable converts to a Windows path with
exactly the same sequence of component kinds and names; the result is prefix-free. -/
theorem conv_u2w_portable (b : Bytes) (hnames : ∀ s, Comp.normal s ∈ comps .unix b → portable s) :
    comps .windows (withEncoding .unix .windows b) = comps .unix b ∧
    pfxStart (withEncoding .unix .windows b) = false := by
  rw [withEncoding_ne (by decide), convFold_eq_pushAll _ _ _ (unix_comps_parsed b).noPfx]
  exact win_render_parsed _ (unix_comps_parsed b) hnames

theorem roundtrip_u_w_u (b : Bytes) (hnames : ∀ s, Comp.normal s ∈ comps .unix b → portable s) :
    pathEq .unix (withEncoding .windows .unix (withEncoding .unix .windows b)) b = true := by
  obtain ⟨h1, h2⟩ := conv_u2w_portable b hnames
  rw [C05.eq_iff_comps, conv_w2u_prefix_free _ h2, h1]

theorem roundtrip_w_u_w (b : Bytes) (hpf : pfxStart b = false)
    (hnames : ∀ s, Comp.normal s ∈ comps .windows b → portable s) :
    pathEq .windows (withEncoding .unix .windows (withEncoding .windows .unix b)) b = true := by
  have h1 := conv_w2u_prefix_free b hpf
  have h2 := conv_u2w_portable (withEncoding .windows .unix b) (by rw [h1]; exact hnames)
  rw [C05.eq_iff_comps, h2.1, h1]

-- `a.b` is portable; `/a/../b` ↦ `\a\..\b`

example : portable [97, 46, 98] := by
  refine ⟨by simp, by decide +kernel, by decide +kernel, ?_⟩
  intro y hy; simp at hy; rcases hy with h | h | h <;> (subst h; decide +kernel)
example : withEncoding .unix .windows [47, 97, 47, 46, 46, 47, 98] = [92, 97, 92, 46, 46, 92, 98] := by
  have hne : Enc.unix ≠ Enc.windows := by decide +kernel
  simp only [withEncoding, hne, if_false]
  rw [C03.comps_new_closed]; decide +kernel

end TP.C16b
