/-
Props/C07.lean — Unix path buffers track std::path::PathBuf over every mutation history.

Invariant over histories: the std buffer `s` is the typed-path buffer `m`, or `m` followed by
one separator (which std appends when an *empty* path is pushed).  Hence component equality
throughout, equal Booleans, and byte equality right after any push of a non-empty path.

The two step functions differ in `push` only, and the two pushes on the empty argument only
(`unixPush_eq_stdPush`); related buffers answer every query alike; `pop` truncates inside `m`, where
they agree (`I_take`), and `set_extension` cuts behind the same token of both
(`setExtension_trailing_sep`), so either makes them equal when it succeeds.
-/
import TypedPathVerif.Spec.StdBuf
import TypedPathVerif.Lemmas.Append
import TypedPathVerif.Props.C01
import TypedPathVerif.Props.C09
import TypedPathVerif.Props.C13

namespace TP.C07

open StdBuf

/-- `s`, std's buffer, is the crate's `m`, or `m` and the separator that std's push of an empty
path added -/
def I (m s : Bytes) : Prop := s = m ∨ (s = m ++ [SLASH] ∧ m ≠ [] ∧ m.getLast? ≠ some SLASH)

theorem unixPush_eq_stdPush (m p : Bytes) (hp : p ≠ []) : unixPush m p = stdPush m p := by
  unfold unixPush stdPush
  rw [if_neg hp, (C01.unix_has_root p).2, StdSpec.hasRoot]
  by_cases ha : p.head? = some SLASH
  · rw [if_pos (decide_eq_true ha), if_pos ha]
  · rw [if_neg (fun h => ha (of_decide_eq_true h)), if_neg ha]
    by_cases hc : m = [] ∨ m.getLast? = some SLASH
    · rw [if_pos hc, if_neg (fun h => hc.elim h.1 h.2)]
    · rw [if_neg hc, if_pos ⟨fun h => hc (Or.inl h), fun h => hc (Or.inr h)⟩]

theorem stdPush_trailing (m p : Bytes) (hm : m ≠ []) (hl : m.getLast? ≠ some SLASH) :
    stdPush (m ++ [SLASH]) p = stdPush m p := by
  unfold stdPush
  by_cases ha : p.head? = some SLASH
  · rw [if_pos ha, if_pos ha]
  · rw [if_neg ha, if_neg ha, if_pos (Or.inr (List.getLast?_concat)),
      if_neg (fun h => h.elim hm hl)]

theorem stdPush_nil (s : Bytes) :
    stdPush s [] = if s = [] ∨ s.getLast? = some SLASH then s else s ++ [SLASH] := by
  unfold stdPush
  rw [if_neg (fun h => nomatch h)]
  split
  · exact List.append_nil s
  · exact List.append_nil _

theorem push_step (m s p : Bytes) (h : I m s) :
    I (unixPush m p) (stdPush s p) ∧ (p ≠ [] → stdPush s p = unixPush m p) := by
  by_cases hp : p = []
  · subst hp
    refine ⟨?_, fun h0 => absurd rfl h0⟩
    rw [show unixPush m [] = m from if_pos rfl, stdPush_nil]
    rcases h with rfl | ⟨rfl, hm, hl⟩
    · by_cases hc : s = [] ∨ s.getLast? = some SLASH
      · rw [if_pos hc]
        exact Or.inl rfl
      · rw [if_neg hc]
        exact Or.inr ⟨rfl, fun h0 => hc (Or.inl h0), fun h0 => hc (Or.inr h0)⟩
    · rw [if_pos (Or.inr (List.getLast?_concat))]
      exact Or.inr ⟨rfl, hm, hl⟩
  · have : stdPush s p = unixPush m p := by
      rw [unixPush_eq_stdPush m p hp]
      rcases h with rfl | ⟨rfl, hm, hl⟩
      · rfl
      · exact stdPush_trailing m p hm hl
    exact ⟨Or.inl this, fun _ => this⟩

theorem nextBack_trailing_sep (m : Bytes) (hm : m ≠ []) :
    (Enc.new .unix (m ++ [SLASH])).nextBack = (Enc.new .unix m).nextBack := by
  have htoks : toks usep (m ++ [SLASH]) = toks usep m ++ [.sep SLASH] := toks_append_sep_end usep m SLASH usep_slash
  have hne : toks usep m ≠ [] := by rwa [ne_eq, toks_eq_nil_iff]
  have hne' : (Enc.new .unix (m ++ [SLASH])).toks ≠ [] := by
    rw [show (Enc.new .unix (m ++ [SLASH])).toks = _ from htoks]
    simp
  rw [nextBack_of_toks (s := Enc.new .unix m) hne, nextBack_of_toks hne']
  simp only [Enc.new, htoks, backT_append_sep false _ SLASH hne]

theorem fileName_trailing_sep (m : Bytes) (hm : m ≠ []) : fileName .unix (m ++ [SLASH]) = fileName .unix m := by
  unfold fileName
  rw [nextBack_trailing_sep m hm]

theorem I_take {m s : Bytes} (h : I m s) {n : Nat} (hn : n ≤ m.length) : s.take n = m.take n := by
  rcases h with rfl | ⟨rfl, -, -⟩
  · rfl
  · exact List.take_append_of_le_length hn

theorem I_parent {m s : Bytes} (h : I m s) : parent .unix s = parent .unix m := by
  rcases h with rfl | ⟨rfl, hm, -⟩
  · rfl
  · unfold parent
    rw [nextBack_trailing_sep m hm]

theorem I_fileName {m s : Bytes} (h : I m s) : fileName .unix s = fileName .unix m := by
  rcases h with rfl | ⟨rfl, hm, -⟩
  · rfl
  · exact fileName_trailing_sep m hm

theorem pop_step (m s : Bytes) (h : I m s) :
    I (pop .unix m).1 (stdPop s).1 ∧ (pop .unix m).2 = (stdPop s).2 := by
  simp only [stdPop, pop, I_parent h]
  cases hpar : parent .unix m with
  | none => exact ⟨h, rfl⟩
  | some q =>
    -- both truncate to the parent, which lies inside `m`
    obtain ⟨r, hr⟩ := C09.parent_is_prefix .unix m q hpar
    refine ⟨Or.inl (I_take h ?_), rfl⟩
    rw [hr, List.length_append]
    exact Nat.le_add_right _ _

theorem stdStep_setExtension (s x : Bytes) : stdStep s (.setExtension x) = setExtension .unix s x := by
  simp only [stdStep, setExtension]
  cases fileName .unix s with
  | none => rfl
  | some f => cases fileStem .unix s <;> rfl

theorem setExtension_trailing_sep (m x : Bytes) (hm : m ≠ []) :
    stdStep (m ++ [SLASH]) (.setExtension x) =
      (match fileName .unix m with
       | some _ => setExtension .unix m x
       | none => (m ++ [SLASH], false)) := by
  have hfn := fileName_trailing_sep m hm
  rw [stdStep_setExtension]
  cases hf : fileName .unix m with
  | none => exact C13.set_ext_false .unix _ x (hfn.trans hf)
  | some f =>
    -- the file-name token of `m` is the last non-junk token of `m/` too
    obtain ⟨r, j, hts, hj, hs, _⟩ := C13.fileName_tokens .unix m f hf
    have hts' : (Enc.new .unix (m ++ [SLASH])).toks = r ++ .seg f :: (j ++ [.sep SLASH]) :=
      (toks_append_sep_end usep m SLASH usep_slash).trans (by rw [show toks usep m = _ from hts]; simp)
    exact (C13.setExtension_eq .unix _ x f (hfn.trans hf) hts' hs (junk_snoc_sep SLASH hj)).trans
      (C13.setExtension_eq .unix m x f hf hts hs hj).symm

/-- One `PathBuf` mutation (`push`, `pop`, `clear`, `set_file_name`, `set_extension`) applied to the crate's
buffer and to std's keeps `I` and returns the same Boolean: the inductive step of `unix_history_refines`. -/
theorem step_preserves (m s : Bytes) (op : Op) (h : I m s) :
    I (modelStep m op).1 (stdStep s op).1 ∧ (modelStep m op).2 = (stdStep s op).2 := by
  cases op with
  | push p => exact ⟨(push_step m s p h).1, rfl⟩
  | pop => exact pop_step m s h
  | clear => exact ⟨Or.inl rfl, rfl⟩
  | setFileName n =>
    simp only [modelStep, stdStep, setFileName, and_true]
    rw [I_fileName h]
    cases hf : (fileName .unix m).isSome with
    | true => exact (push_step _ _ n (pop_step m s h).1).1
    | false => exact (push_step m s n h).1
  | setExtension x =>
    rcases h with h | ⟨h, hm, hl⟩
    · subst h
      rw [stdStep_setExtension]
      exact ⟨Or.inl rfl, rfl⟩
    · subst h
      rw [setExtension_trailing_sep m x hm]
      simp only [modelStep]
      cases hf : fileName .unix m with
      | some f => exact ⟨Or.inl rfl, rfl⟩
      | none =>
        rw [C13.set_ext_false .unix m x hf]
        exact ⟨Or.inr ⟨rfl, hm, hl⟩, rfl⟩

def Related : List (Bytes × Bool) → List (Bytes × Bool) → Prop
  | [], [] => True
  | a :: as, b :: bs => (I a.1 b.1 ∧ a.2 = b.2) ∧ Related as bs
  | _, _ => False

/-- The relation holds after every step of every history, and every Boolean result agrees. -/
theorem unix_history_refines : ∀ (ops : List Op) (m s : Bytes), I m s →
    Related (runModel m ops) (runStd s ops)
  | [], _, _, _ => trivial
  | op :: ops, m, s, h => by
    have hs := step_preserves m s op h
    exact ⟨hs, unix_history_refines ops _ _ hs.1⟩

/-- related buffers have the same components: with it `unix_history_refines` says that the crate's buffer
and std's are component-equal after every step -/
theorem I_comps_eq (m s : Bytes) (h : I m s) : comps .unix s = comps .unix m := by
  rcases h with h | ⟨h, hm, _⟩
  · rw [h]
  · rw [h, unix_comps_eq, unix_comps_eq, compsT_trailing_sep usep false m SLASH usep_slash hm]

/-- Immediately after pushing a non-empty path the two buffers are byte-identical. -/
theorem unix_history_bytes (m s p : Bytes) (h : I m s) (hp : p ≠ []) :
    (stdStep s (.push p)).1 = (modelStep m (.push p)).1 := (push_step m s p h).2 hp

example : I [97] [97, 47] := Or.inr ⟨rfl, by simp, by decide +kernel⟩
example : (stdStep [97] (.push [])).1 = [97, 47] ∧ (modelStep [97] (.push [])).1 = [97] := by decide +kernel
example : runStd [47, 97] [.push [98], .pop, .setFileName [99]] =
    [([47, 97, 47, 98], true), ([47, 97], true), ([47, 99], true)] := by decide +kernel

end TP.C07
