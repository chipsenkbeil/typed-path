/-
Props/C11c.lean — C11 continued: `absolutize`.

`Path::absolutize` is `normalize` for an absolute path and `cwd.join(path).normalize()` otherwise,
with `cwd` the process's current directory converted to the path's encoding.  With the current
directory as a parameter: for an absolute `cwd` the result is always absolute, free of `.` and
`..`, normalised (absolutizing it again changes nothing), and for a relative non-empty path its
components are the documented fold of the current directory's components followed by the path's
(Windows: that last clause, for a non-empty current directory that is prefix-free or has a complete
non-verbatim prefix followed by something, so not a bare `C:`, a path that starts neither like a prefix nor
with a separator, and names without `:`).  The oracle
compares the crate's `absolutize` with exactly this composition on every run
(`absolutize-of-absolute-is-normalize`, `absolutize-of-relative-is-cwd-join-normalize`).
-/
import TypedPathVerif.Props.C11
import TypedPathVerif.Props.C11b
import TypedPathVerif.Props.C12c
import TypedPathVerif.Props.C16b
import TypedPathVerif.Lemmas.WinAppend
import TypedPathVerif.Lemmas.WinPush
import TypedPathVerif.Lemmas.PfxStart

namespace TP.C11c

theorem absolutize_of_absolute (e : Enc) (cwd p : Bytes) (h : isAbsolute e p = true) :
    absolutize e cwd p = normalize e p := by simp [absolutize, h]

theorem unix_normalize_absolute_iff (b : Bytes) :
    isAbsolute .unix (normalize .unix b) = true ↔ isAbsolute .unix b = true := by
  rw [unix_isAbsolute_iff, unix_isAbsolute_iff]
  exact C11.unix_normalize_keeps_root b

/-- **Unix: with an absolute current directory the result is absolute and has no `.` / `..`.** -/
theorem unix_absolutize_absolute (cwd p : Bytes) (hcwd : isAbsolute .unix cwd = true) :
    isAbsolute .unix (absolutize .unix cwd p) = true ∧
    ∀ c ∈ comps .unix (absolutize .unix cwd p), c ≠ .cur ∧ c ≠ .parent := by
  unfold absolutize
  by_cases hp : isAbsolute .unix p = true
  · rw [if_pos hp]
    exact ⟨(unix_normalize_absolute_iff p).mpr hp, C11.unix_normalize_no_dots p⟩
  · rw [if_neg hp]
    refine ⟨(unix_normalize_absolute_iff _).mpr ?_, C11.unix_normalize_no_dots _⟩
    -- the join keeps the current directory's root in front
    have hcne : cwd ≠ [] := by
      intro h0
      subst h0
      cases hcwd
    rw [unix_isAbsolute_iff, show push .unix cwd p = unixPush cwd p from rfl,
      unix_push_comps cwd p (Bool.not_eq_true _ |>.mp hp) hcne, List.head?_append,
      (unix_isAbsolute_iff cwd).mp hcwd]
    rfl

/-- a leading `.` of the path is dropped by the join -/
theorem unix_absolutize_relative (cwd p : Bytes) (hcne : cwd ≠ []) (hpe : p ≠ [])
    (hp : isAbsolute .unix p = false) :
    comps .unix (absolutize .unix cwd p) =
      normFold [] (comps .unix cwd ++ dropLeadingCur (comps .unix p)) := by
  unfold absolutize
  simp only [hp, Bool.false_eq_true, if_false]
  rw [C11.unix_normalize_comps, show push .unix cwd p = unixPush cwd p from rfl, unix_push_comps cwd p hp hcne]

theorem unix_absolutize_idempotent (cwd p : Bytes) (hcwd : isAbsolute .unix cwd = true) :
    absolutize .unix cwd (absolutize .unix cwd p) = absolutize .unix cwd p := by
  have habs := (unix_absolutize_absolute cwd p hcwd).1
  rw [absolutize_of_absolute _ _ _ habs]
  unfold absolutize
  split <;> exact C11.unix_normalize_idempotent _

/-- **Windows: a relative, prefix-free, non-empty path against a current directory that is
prefix-free and non-empty, or carries a complete non-verbatim prefix followed by something**: the
components of the result are the documented fold of the current directory's components followed
by the path's, and it has no `.` / `..`.  (Names without `:`, as for `normalize`.) -/
theorem win_absolutize_relative (cwd p : Bytes)
    (hcwd : (C16.pfxStart cwd = false ∧ cwd ≠ []) ∨
      ∃ pp rest, parsePrefixComp cwd = some (pp, rest) ∧ Win.Complete pp.kind ∧
        JoinRules.isVerbatimKind pp.kind = false ∧ rest ≠ [])
    (hpne : p ≠ []) (hp : C16.pfxStart p = false) (hrel : JoinRules.startsWithSep p = false)
    (hnames : ∀ s, Comp.normal s ∈ comps .windows cwd ++ dropLeadingCur (comps .windows p) → ∀ y ∈ s, y ≠ COLON) :
    comps .windows (absolutize .windows cwd p) =
      normFold [] (comps .windows cwd ++ dropLeadingCur (comps .windows p)) ∧
    ∀ c ∈ comps .windows (absolutize .windows cwd p), c ≠ .cur ∧ c ≠ .parent := by
  have hjoin : C12c.Base (windowsPush cwd p) ∧
      comps .windows (windowsPush cwd p) = comps .windows cwd ++ dropLeadingCur (comps .windows p) := by
    rcases hcwd with ⟨hc, hcne⟩ | ⟨pp, rest, hpp, hcmp, hnv, hrest⟩
    · obtain ⟨h1, h2⟩ := C16b.win_push_comps_pf cwd p hc hcne hpne hp hrel
      exact ⟨Or.inl h1, h2⟩
    · obtain ⟨h1, h2, h3⟩ := Win.push_prefixed hpp (Win.stable_of_complete hpp hcmp)
        (Win.normOf_raw_of_complete hpp hcmp hnv) hnv hrest hpne hp hrel
      exact ⟨h1 ▸ C12c.Base.of_rest hpp hcmp hnv h2, h3⟩
  obtain ⟨hbase, hcomps⟩ := hjoin
  have hn' : ∀ s, Comp.normal s ∈ comps .windows (windowsPush cwd p) → ∀ y ∈ s, y ≠ COLON := by
    rw [hcomps]
    exact hnames
  unfold absolutize
  rw [C08.isAbsolute_false_of_pf p hp, if_neg (by simp)]
  exact ⟨(C11b.win_normalize_comps _ hbase hn').trans (congrArg _ hcomps),
    C11b.win_normalize_no_dots _ hbase hn'⟩

example : absolutize .unix [47, 104] [97, 47, 46, 46, 47, 98] = [47, 104, 47, 98] := by
  unfold absolutize; simp only [show isAbsolute .unix [97, 47, 46, 46, 47, 98] = false by decide +kernel, Bool.false_eq_true, if_false]
  unfold normalize; rw [C03.comps_new_closed]; decide +kernel

end TP.C11c
