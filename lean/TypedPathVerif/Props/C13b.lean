/-
Props/C13b.lean — C13 continued: `set_extension` on WINDOWS paths, re-parsed (`C13b`), with the instances for any
stable verbatim prefix, among them the incomplete `\\?\UNC\server\` (`C13d`), and for a complete one (`C13c`).

For every Windows base with a stable prefix (`win_set_ext_of_stable`) and for every covered base
without a verbatim prefix (`C12c.Base`: no prefix-like start, or a complete disk / device-namespace /
UNC prefix) that has a file name, and every extension free of both separators: after
`set_extension(x)` the components are the old ones with the file name replaced by `stem[.x]` — same
parent, new file name — provided `stem[.x]` is a name at all (it is not when the stem is `.`/`..`
and `x` is empty; std has the same corner).

Old and new text after the prefix share a non-empty front (everything up to the end of the stem);
that is all `Win.RestOK` (first byte) and `C16.pfxStart` (first two bytes) look at.
-/
import TypedPathVerif.Props.C12c
import TypedPathVerif.Props.C13
import TypedPathVerif.Lemmas.WinStable
import TypedPathVerif.Props.C02c

namespace TP.C13b

/-- the bytes after the prefix, before and after: same first byte unless the name is first -/
theorem head_untoks_snoc (r : List Tok) (s s' : Bytes) (hr : r ≠ []) (hw : WFToks (wsep true) (r ++ [.seg s])) :
    (untoks (r ++ [.seg s])).head? = (untoks r ++ s').head? := by
  cases r with
  | nil => exact absurd rfl hr
  | cons t r' =>
    have hne := tok_bytes_ne_nil (by simpa using hw : WFToks (wsep true) (t :: (r' ++ [.seg s])))
    simp only [List.cons_append, untoks]
    cases hb : t.bytes with
    | nil => exact absurd hb hne
    | cons x xs => simp

/-- **Windows `set_extension` under any stable prefix, re-parsed**: the result's components are the old
ones with the file name replaced by stem[.x], and the result again carries the same prefix. -/
theorem win_set_ext_of_stable (b x f rest : Bytes) (p : PrefixComp)
    (hpp : parsePrefixComp b = some (p, rest)) (hs : Win.Stable p)
    (h : fileName .windows b = some f) (hx : ∀ y ∈ x, anySep y = false) :
    ∃ st, fileStem .windows b = some st ∧
      let newName := st ++ (if x = [] then [] else DOT :: x)
      (newName ≠ CUR → newName ≠ PAR →
        comps .windows (setExtension .windows b x).1 = (comps .windows b).dropLast ++ [.normal newName] ∧
        ∃ rest', (setExtension .windows b x).1 = p.raw ++ rest' ∧ Win.RestOK p rest' ∧
          parsePrefixComp (setExtension .windows b x).1 = some (p, rest')) := by
  have hnew := new_of_parse hpp
  obtain ⟨C, t, L, hR, hC, hres, hold, hcomps⟩ :=
    C13.set_ext_compsT .windows b x f (wsep (Win.normOf p.raw)) rest (by rw [hnew]) h (Win.wsep_dot _)
      (fun y hy => Win.not_wsep_of_not_anySep (hx y hy))
  refine ⟨C13.stemOf f, C13.fileStem_of_fileName h, fun hc hp => ?_⟩
  rw [hnew] at hres hold hcomps
  have hok' : Win.RestOK p (C ++ C13.dotExt x) := Win.restOK_same_front t _ hC (hR ▸ Win.restOK_of_parse hpp)
  refine ⟨?_, _, hres, hok', hres ▸ (hs _ hok').1⟩
  rw [hres, show PState.preBytes _ = p.raw from rfl, Win.comps_of_stable hs _ hok', comps_of_parse hpp,
    hcomps hc hp, hold]
  exact (congrArg (· ++ _) (List.dropLast_concat (l₁ := .pfx p :: L))).symm

/-- **Windows `set_extension`, re-parsed.** -/
theorem win_set_ext_comps (b x f : Bytes) (hb : C12c.Base b) (h : fileName .windows b = some f)
    (hx : ∀ y ∈ x, anySep y = false) :
    ∃ st, fileStem .windows b = some st ∧
      let newName := st ++ (if x = [] then [] else DOT :: x)
      (newName ≠ CUR → newName ≠ PAR →
        comps .windows (setExtension .windows b x).1 = (comps .windows b).dropLast ++ [.normal newName] ∧
        C12c.Base (setExtension .windows b x).1) := by
  rcases hb with hpf | ⟨p, rest, hpp, hcmp, hnv⟩
  · have hnew := Win.new_of_pf b hpf
    obtain ⟨C, t, L, hR, hC, hres, hold, hcomps⟩ :=
      C13.set_ext_compsT .windows b x f (wsep true) b (by rw [hnew]) h (Win.wsep_dot _) hx
    refine ⟨C13.stemOf f, C13.fileStem_of_fileName h, fun hc hp => ?_⟩
    rw [hnew] at hres hold hcomps
    have hpf' : C16.pfxStart (C ++ C13.dotExt x) = false :=
      C16.pfxStart_same_front t _ hC (C13.dotExt_head x) (hR ▸ hpf)
    rw [hres, show PState.preBytes _ ++ _ = C ++ C13.dotExt x from rfl]
    refine ⟨?_, Or.inl hpf'⟩
    rw [C16.win_comps_pf _ hpf', C16.win_comps_pf b hpf, hcomps hc hp, hold, List.dropLast_concat]
    rfl
  · obtain ⟨st, hst, hmain⟩ := win_set_ext_of_stable b x f rest p hpp (Win.stable_of_complete hpp hcmp) h hx
    refine ⟨st, hst, fun hc hp => ?_⟩
    obtain ⟨h1, rest', _, _, h3⟩ := hmain hc hp
    exact ⟨h1, Or.inr ⟨p, rest', h3, hcmp, hnv⟩⟩

/-- hence: the parent's components are unchanged, and the file name is stem[.x] -/
theorem win_set_ext_name_parent (b x f : Bytes) (hb : C12c.Base b) (h : fileName .windows b = some f)
    (hx : ∀ y ∈ x, anySep y = false) :
    ∃ st, fileStem .windows b = some st ∧
      let newName := st ++ (if x = [] then [] else DOT :: x)
      (newName ≠ CUR → newName ≠ PAR →
        fileName .windows (setExtension .windows b x).1 = some newName ∧
        ∃ q q', parent .windows b = some q ∧ parent .windows (setExtension .windows b x).1 = some q' ∧
          comps .windows q' = comps .windows q) := by
  obtain ⟨st, hst, hmain⟩ := win_set_ext_comps b x f hb h hx
  refine ⟨st, hst, ?_⟩
  intro newName hc hp
  obtain ⟨hcomps, hb'⟩ := hmain hc hp
  obtain ⟨cs, hcb⟩ := List.getLast?_eq_some_iff.mp ((C12.file_name_iff_last_normal .windows b f).mp h)
  rw [hcb, List.dropLast_concat] at hcomps
  obtain ⟨_, q, hq, hcq, _⟩ := C12c.fileName_parent_of_comps b hb cs f hcb
  obtain ⟨h1, q', hq', hcq', _⟩ := C12c.fileName_parent_of_comps _ hb' _ newName hcomps
  exact ⟨h1, q, q', hq, hq', by rw [hcq', hcq]⟩

end TP.C13b

/-! ### verbatim prefixes: any stable one; the incomplete `\\?\UNC\server\` (Props/C02c, `stable_verbatimUNC_noshare_sep`); the complete ones -/

namespace TP.C13d

open TP.Win TP.JoinRules

theorem win_set_ext_comps_verbatim_of_stable (b x f rest : Bytes) (p : PrefixComp)
    (hpp : parsePrefixComp b = some (p, rest)) (hs : Stable p) (hok : RestOK p rest) (hv : isVerbatimKind p.kind = true)
    (h : fileName .windows b = some f) (hx : ∀ y ∈ x, anySep y = false) :
    ∃ st, fileStem .windows b = some st ∧
      let newName := st ++ (if x = [] then [] else DOT :: x)
      (newName ≠ CUR → newName ≠ PAR →
        comps .windows (setExtension .windows b x).1 = (comps .windows b).dropLast ++ [.normal newName] ∧
        ∃ rest', (setExtension .windows b x).1 = p.raw ++ rest' ∧
          parsePrefixComp (setExtension .windows b x).1 = some (p, rest')) := by
  obtain ⟨st, hst, hmain⟩ := C13b.win_set_ext_of_stable b x f rest p hpp hs h hx
  refine ⟨st, hst, fun hc hp => ?_⟩
  obtain ⟨h1, rest', h2, _, h3⟩ := hmain hc hp
  exact ⟨h1, rest', h2, h3⟩

/-- `set_extension` under `\\?\UNC\server\` (empty share, the separator inside the prefix) -/
theorem win_set_ext_comps_noshare (b x f rest sv : Bytes) (p : PrefixComp)
    (hpp : parsePrefixComp b = some (p, rest)) (hk : p.kind = .verbatimUNC sv [])
    (hlen : p.raw.length = 8 + sv.length + 1)
    (h : fileName .windows b = some f) (hx : ∀ y ∈ x, anySep y = false) :
    ∃ st, fileStem .windows b = some st ∧
      let newName := st ++ (if x = [] then [] else DOT :: x)
      (newName ≠ CUR → newName ≠ PAR →
        comps .windows (setExtension .windows b x).1 = (comps .windows b).dropLast ++ [.normal newName] ∧
        ∃ rest', (setExtension .windows b x).1 = p.raw ++ rest' ∧
          parsePrefixComp (setExtension .windows b x).1 = some (p, rest')) :=
  win_set_ext_comps_verbatim_of_stable b x f rest p hpp (Win.stable_verbatimUNC_noshare_sep hpp hk hlen)
    (restOK_of_parse hpp) (by rw [hk]; rfl) h hx

end TP.C13d

namespace TP.C13c

open TP.Win TP.JoinRules

/-- **Windows `set_extension` under a complete verbatim prefix, re-parsed.**  For a separator-free
extension `x`: the result's components are the old ones with the file name replaced by stem[.x]
(provided that is a name at all), and the result again carries the same prefix. -/
theorem win_set_ext_comps_verbatim (b x f rest : Bytes) (p : PrefixComp)
    (hpp : parsePrefixComp b = some (p, rest)) (hcmp : Complete p.kind) (hv : isVerbatimKind p.kind = true)
    (h : fileName .windows b = some f) (hx : ∀ y ∈ x, anySep y = false) :
    ∃ st, fileStem .windows b = some st ∧
      let newName := st ++ (if x = [] then [] else DOT :: x)
      (newName ≠ CUR → newName ≠ PAR →
        comps .windows (setExtension .windows b x).1 = (comps .windows b).dropLast ++ [.normal newName] ∧
        ∃ rest', (setExtension .windows b x).1 = p.raw ++ rest' ∧
          parsePrefixComp (setExtension .windows b x).1 = some (p, rest')) :=
  C13d.win_set_ext_comps_verbatim_of_stable b x f rest p hpp (stable_of_complete hpp hcmp)
    (restOK_of_parse hpp) hv h hx

end TP.C13c
