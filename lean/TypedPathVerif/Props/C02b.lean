/-
Props/C02b.lean — C02, continued: on which inputs the byte-level prefix parser of Model/Enc.lean (six ordered
alternatives, `not(...)` guards) produces which kind.

Exact conditions (header bytes, payload, what follows) for the three kinds that have no incomplete form: disk,
verbatim disk, device namespace; and for every kind the header the input must carry (`kind_header`).
The other three kinds (UNC, verbatim, verbatim UNC) have complete and incomplete forms: the complete ones
(with a share / a name other than `UNC`: the prefixes `Win.Complete` of Lemmas/WinStable.lean speaks of) stand
at the end of this file in namespace `Win`, with `Win.parsePrefix_alts` (which alternative answered); the
incomplete ones are in Props/C02c.lean (the fall-through corners `\\?\` alone, `\\?\UNC\` without a server,
`\\server` without a share).  All of them are read off the grammar `Win.Shape` of Lemmas/WinPrefix.lean
(`Win.parsePrefix_iff`).
-/
import TypedPathVerif.Lemmas.WinPrefix

namespace TP.C02b

open TP.Win

/-- Not used below, and yet it stays, first in the file: the `match` in the statement of
`device_ns_iff` is the matcher generated here, and carries this lemma's name. -/
theorem verbatimHdr_none_of_not_sep {b : Bytes} (h : match b with | x :: _ => anySep x = false | [] => True) :
    verbatimHdr b = none :=
  Option.eq_none_iff_forall_ne_some.mpr fun v a => by
    obtain ⟨_, _, _, rfl, h1, _⟩ := verbatimHdr_some a
    exact absurd h1 (Bool.eq_false_iff.mp h)

theorem disk_iff (b rest : Bytes) (D : UInt8) :
    parsePrefix b = some (.disk D, rest) ↔
      ∃ d, b = d :: COLON :: rest ∧ isAsciiAlpha d = true ∧ D = toAsciiUpper d := by
  rw [parsePrefix_iff]
  constructor
  · rintro ⟨_, rfl, h⟩
    cases h with
    | disk hd => exact ⟨_, rfl, hd, rfl⟩
  · rintro ⟨d, rfl, hd, rfl⟩
    exact ⟨[d, COLON], rfl, .disk hd⟩

theorem verbatim_disk_iff (b rest : Bytes) (D : UInt8) :
    parsePrefix b = some (.verbatimDisk D, rest) ↔
      ∃ s1 s2 s3 d, b = s1 :: s2 :: QMARK :: s3 :: d :: COLON :: rest ∧
        anySep s1 = true ∧ anySep s2 = true ∧ anySep s3 = true ∧ isAsciiAlpha d = true ∧ D = toAsciiUpper d := by
  rw [parsePrefix_iff]
  constructor
  · rintro ⟨_, rfl, h⟩
    cases h with
    | verbatimDisk h1 h2 h3 hd => exact ⟨_, _, _, _, rfl, h1, h2, h3, hd, rfl⟩
  · rintro ⟨s1, s2, s3, d, rfl, h1, h2, h3, hd, rfl⟩
    exact ⟨[s1, s2, QMARK, s3, d, COLON], rfl, .verbatimDisk h1 h2 h3 hd⟩

theorem takeNormal_iff (norm : Bool) (b n r : Bytes) :
    takeNormal norm b = some (n, r) ↔
      b = n ++ r ∧ n ≠ [] ∧ (∀ y ∈ n, wsep norm y = false) ∧
        (match r with | x :: _ => wsep norm x = true | [] => True) := by
  rw [Win.takeNormal_iff, Field]
  cases r with
  | nil => exact Iff.rfl
  | cons _ _ => exact Iff.rfl

theorem device_ns_iff (b rest dev : Bytes) :
    parsePrefix b = some (.deviceNS dev, rest) ↔
      ∃ s1 s2 s3, b = s1 :: s2 :: DOT :: s3 :: (dev ++ rest) ∧
        anySep s1 = true ∧ anySep s2 = true ∧ anySep s3 = true ∧ dev ≠ [] ∧
        (∀ y ∈ dev, anySep y = false) ∧ (match rest with | x :: _ => anySep x = true | [] => True) := by
  rw [parsePrefix_iff]
  constructor
  · rintro ⟨_, rfl, h⟩
    cases h with
    | deviceNS h1 h2 h3 hf => exact ⟨_, _, _, rfl, h1, h2, h3, hf.1, hf.2.1, (headOK_match _ _).mp hf.2.2⟩
  · rintro ⟨s1, s2, s3, rfl, h1, h2, h3, hne, hfree, hrest⟩
    exact ⟨s1 :: s2 :: DOT :: s3 :: dev, rfl, .deviceNS h1 h2 h3 ⟨hne, hfree, (headOK_match _ _).mpr hrest⟩⟩

/-- The two `not(...)` guards of `prefix_verbatim` are redundant where `prefix` calls it: it is
reached only after the verbatim-UNC and verbatim-disk alternatives have failed. -/
theorem prefixVerbatim_guards_redundant (b : Bytes) (h1 : prefixVerbatimUNC b = none)
    (h2 : prefixVerbatimDisk b = none) :
    prefixVerbatim b =
      (match verbatimHdr b with
       | none => none
       | some r =>
         match takeNormal (!startsWith b VERB) r with
         | some (name, r') => some (.verbatim name, r')
         | none => match takeSep (!startsWith b VERB) r with
           | some _ => some (.verbatim [], r)
           | none => none) := by
  unfold prefixVerbatim
  simp only [h1, h2, Option.isSome_none, Bool.false_eq_true, if_false]
  cases verbatimHdr b with
  | none => rfl
  | some r =>
    simp only
    cases takeNormal (!startsWith b VERB) r with
    | some x => rfl
    | none =>
      simp only
      cases takeSep (!startsWith b VERB) r <;> rfl

theorem guards_exclusive {t : Nat} {A B C D : Prop}
    (h : (t ≤ 2 ∧ A) ∨ (t = 3 ∧ B) ∨ (t = 4 ∧ C) ∨ (t = 5 ∧ D)) :
    (t ≤ 2 → A) ∧ (t = 3 → B) ∧ (t = 4 → C) ∧ (t = 5 → D) := by
  rcases h with ⟨ht, a⟩ | ⟨rfl, b⟩ | ⟨rfl, c⟩ | ⟨rfl, d⟩
  · exact ⟨fun _ => a, fun h => absurd (h ▸ ht) (by decide), fun h => absurd (h ▸ ht) (by decide),
      fun h => absurd (h ▸ ht) (by decide)⟩
  · exact ⟨fun h => absurd h (by decide), fun _ => b, fun h => absurd h (by decide), fun h => absurd h (by decide)⟩
  · exact ⟨fun h => absurd h (by decide), fun h => absurd h (by decide), fun _ => c, fun h => absurd h (by decide)⟩
  · exact ⟨fun h => absurd h (by decide), fun h => absurd h (by decide), fun h => absurd h (by decide), fun _ => d⟩

theorem kind_header (b rest : Bytes) (k : WPrefix) (h : parsePrefix b = some (k, rest)) :
    (k.tag ≤ 2 → ∃ s1 s2 s3 v, b = s1 :: s2 :: QMARK :: s3 :: v ∧ anySep s1 = true ∧ anySep s2 = true ∧ anySep s3 = true) ∧
    (k.tag = 3 → ∃ s1 s2 s3 v, b = s1 :: s2 :: DOT :: s3 :: v ∧ anySep s1 = true ∧ anySep s2 = true ∧ anySep s3 = true) ∧
    (k.tag = 4 → ∃ s1 s2 v, b = s1 :: s2 :: v ∧ anySep s1 = true ∧ anySep s2 = true) ∧
    (k.tag = 5 → ∃ d v, b = d :: COLON :: v ∧ isAsciiAlpha d = true) := by
  obtain ⟨_, rfl, hs⟩ := parsePrefix_iff.mp h
  refine guards_exclusive ?_
  cases hs with
  | disk hd => exact .inr (.inr (.inr ⟨rfl, _, _, rfl, hd⟩))
  | unc h1 h2 _ _ _ => exact .inr (.inr (.inl ⟨rfl, _, _, _, rfl, h1, h2⟩))
  | deviceNS h1 h2 h3 _ => exact .inr (.inl ⟨rfl, _, _, _, _, rfl, h1, h2, h3⟩)
  | verbatimDisk h1 h2 h3 _ => exact .inl ⟨Nat.le_refl 2, _, _, _, _, rfl, h1, h2, h3⟩
  | verbatimUNC h1 h2 h3 _ _ => exact .inl ⟨Nat.le_succ 1, _, _, _, _, rfl, h1, h2, h3⟩
  | verbatim h1 h2 h3 _ _ _ => exact .inl ⟨Nat.zero_le 2, _, _, _, _, rfl, h1, h2, h3⟩
  | verbatimEmpty h1 h2 h3 _ => exact .inl ⟨Nat.zero_le 2, _, _, _, _, rfl, h1, h2, h3⟩

-- `c:\a`, `//./d\x`, `\\?\c:`

example : parsePrefix [99, 58, 92, 97] = some (.disk 67, [92, 97]) := by decide +kernel
example : parsePrefix [47, 47, 46, 47, 100, 92, 120] = some (.deviceNS [100], [92, 120]) := by decide +kernel
example : parsePrefix [92, 92, 63, 92, 99, 58] = some (.verbatimDisk 67, []) := by decide +kernel

end TP.C02b

/-! ## which alternative answered, and the complete forms of the three kinds that also have incomplete ones -/

namespace TP.Win

/-- The kind tells which of the six alternatives of `prefix` answered, every earlier one having failed; that the
source tries them in this order is `C02e.windows_parser_alts_covered`. -/
theorem parsePrefix_alts {b r : Bytes} {k : WPrefix} (h : parsePrefix b = some (k, r)) :
    (k.tag = 1 ∧ prefixVerbatimUNC b = some (k, r)) ∨
    (k.tag = 2 ∧ prefixVerbatimUNC b = none ∧ prefixVerbatimDisk b = some (k, r)) ∨
    (k.tag = 0 ∧ prefixVerbatimUNC b = none ∧ prefixVerbatimDisk b = none ∧ prefixVerbatim b = some (k, r)) ∨
    (k.tag = 3 ∧ prefixVerbatimUNC b = none ∧ prefixVerbatimDisk b = none ∧ prefixVerbatim b = none ∧
      prefixDeviceNS b = some (k, r)) ∨
    (k.tag = 4 ∧ prefixVerbatimUNC b = none ∧ prefixVerbatimDisk b = none ∧ prefixVerbatim b = none ∧
      prefixDeviceNS b = none ∧ prefixUNC b = some (k, r)) ∨
    (k.tag = 5 ∧ prefixVerbatimUNC b = none ∧ prefixVerbatimDisk b = none ∧ prefixVerbatim b = none ∧
      prefixDeviceNS b = none ∧ prefixUNC b = none ∧ prefixDisk b = some (k, r)) := by
  simp only [parsePrefix, Option.orElse_eq_or, Option.or_eq_some_iff] at h
  rcases h with a1 | ⟨a1, a2 | ⟨a2, a3 | ⟨a3, a4 | ⟨a4, a5 | ⟨a5, a6⟩⟩⟩⟩⟩
  · refine .inl ⟨?_, a1⟩
    cases hv : verbatimHdr b with
    | none =>
      rw [(verbatim_alts_none hv).1] at a1
      cases a1
    | some v =>
      obtain ⟨_, _, _, _, _, _, _, rfl⟩ := (prefixVerbatimUNC_iff hv).mp a1
      rfl
  · refine .inr (.inl ⟨?_, a1, a2⟩)
    cases hv : verbatimHdr b with
    | none =>
      rw [(verbatim_alts_none hv).2.1] at a2
      cases a2
    | some v =>
      obtain ⟨_, _, _, rfl⟩ := (prefixVerbatimDisk_iff hv).mp a2
      rfl
  · refine .inr (.inr (.inl ⟨?_, a1, a2, a3⟩))
    cases hv : verbatimHdr b with
    | none =>
      rw [(verbatim_alts_none hv).2.2] at a3
      cases a3
    | some v => rcases (prefixVerbatim_iff hv a1 a2).mp a3 with ⟨_, _, _, rfl⟩ | ⟨_, _, _, _, _, rfl⟩ <;> rfl
  · obtain ⟨_, _, _, _, _, _, _, _, _, rfl⟩ := prefixDeviceNS_iff.mp a4
    exact .inr (.inr (.inr (.inl ⟨rfl, a1, a2, a3, a4⟩)))
  · obtain ⟨_, _, _, _, _, _, _, _, _, rfl⟩ := prefixUNC_iff.mp a5
    exact .inr (.inr (.inr (.inr (.inl ⟨rfl, a1, a2, a3, a4, a5⟩))))
  · obtain ⟨_, _, _, rfl⟩ := prefixDisk_iff.mp a6
    exact .inr (.inr (.inr (.inr (.inr ⟨rfl, a1, a2, a3, a4, a5, a6⟩))))

/-- `sep sep server sep share`.  The server is neither `?` nor `.`: with something after their separator those
are the verbatim and the device-namespace lead-in. -/
theorem unc_complete_iff (b rest sv sh : Bytes) (hsh : sh ≠ []) :
    parsePrefix b = some (.unc sv sh, rest) ↔
      ∃ s1 s2 x, b = s1 :: s2 :: (sv ++ x :: (sh ++ rest)) ∧
        anySep s1 = true ∧ anySep s2 = true ∧ anySep x = true ∧
        sv ≠ [] ∧ (∀ y ∈ sv, anySep y = false) ∧ sv ≠ [QMARK] ∧ sv ≠ [DOT] ∧
        (∀ y ∈ sh, anySep y = false) ∧ HeadOK anySep rest := by
  rw [parsePrefix_iff]
  constructor
  · rintro ⟨_, rfl, h⟩
    cases h with
    | unc h1 h2 hw hq hd =>
      cases hw with
      | share hsv hsh' =>
        exact ⟨_, _, _, by simp, h1, h2, hsv.2.2, hsv.1, hsv.2.1, fun e => hsh (hq e).1, fun e => hsh (hd e),
          hsh'.2.1, hsh'.2.2⟩
      | bare _ => exact absurd rfl hsh
      | sep _ _ => exact absurd rfl hsh
  · rintro ⟨s1, s2, x, rfl, h1, h2, hx, hne, hfree, hq, hd, hshfree, hrest⟩
    exact ⟨s1 :: s2 :: (sv ++ x :: sh), by simp,
      .unc h1 h2 (.share ⟨hne, hfree, hx⟩ ⟨hsh, hshfree, hrest⟩) (fun e => absurd e hq) (fun e => absurd e hd)⟩

/-- `sep sep ? sep UNC sep server sep share`.  The last two separators, and the bytes server and share exclude,
are those of the path's separator set: only `\` when the path starts with exactly `\\?\`. -/
theorem verbatim_unc_complete_iff (b rest sv sh : Bytes) (hsh : sh ≠ []) :
    parsePrefix b = some (.verbatimUNC sv sh, rest) ↔
      ∃ s1 s2 s3 x0 x, b = s1 :: s2 :: QMARK :: s3 :: 85 :: 78 :: 67 :: x0 :: (sv ++ x :: (sh ++ rest)) ∧
        anySep s1 = true ∧ anySep s2 = true ∧ anySep s3 = true ∧
        wsep (!startsWith [s1, s2, QMARK, s3] VERB) x0 = true ∧ wsep (!startsWith [s1, s2, QMARK, s3] VERB) x = true ∧
        sv ≠ [] ∧ (∀ y ∈ sv, wsep (!startsWith [s1, s2, QMARK, s3] VERB) y = false) ∧
        (∀ y ∈ sh, wsep (!startsWith [s1, s2, QMARK, s3] VERB) y = false) ∧
        HeadOK (wsep (!startsWith [s1, s2, QMARK, s3] VERB)) rest := by
  rw [parsePrefix_iff]
  constructor
  · rintro ⟨_, rfl, h⟩
    cases h with
    | verbatimUNC h1 h2 h3 hx0 hw =>
      cases hw with
      | share hsv hsh' =>
        exact ⟨_, _, _, _, _, by simp, h1, h2, h3, hx0, hsv.2.2, hsv.1, hsv.2.1, hsh'.2.1, hsh'.2.2⟩
      | bare _ => exact absurd rfl hsh
      | sep _ _ => exact absurd rfl hsh
  · rintro ⟨s1, s2, s3, x0, x, rfl, h1, h2, h3, hx0, hx, hne, hfree, hshfree, hrest⟩
    exact ⟨s1 :: s2 :: QMARK :: s3 :: 85 :: 78 :: 67 :: x0 :: (sv ++ x :: sh), by simp,
      .verbatimUNC h1 h2 h3 hx0 (.share ⟨hne, hfree, hx⟩ ⟨hsh, hshfree, hrest⟩)⟩

/-- `sep sep ? sep name`.  The name is separator-free for the path's separator set and does not start like a
drive (that is a verbatim disk). -/
theorem verbatim_named_iff (b rest name : Bytes) (hne : name ≠ []) (hunc : name ≠ UNCNAME) :
    parsePrefix b = some (.verbatim name, rest) ↔
      ∃ s1 s2 s3, b = s1 :: s2 :: QMARK :: s3 :: (name ++ rest) ∧
        anySep s1 = true ∧ anySep s2 = true ∧ anySep s3 = true ∧
        (∀ y ∈ name, wsep (!startsWith [s1, s2, QMARK, s3] VERB) y = false) ∧
        HeadOK (wsep (!startsWith [s1, s2, QMARK, s3] VERB)) rest ∧ startsLetterColon name = false := by
  rw [parsePrefix_iff]
  constructor
  · rintro ⟨_, rfl, h⟩
    cases h with
    | verbatim h1 h2 h3 hf hlc _ => exact ⟨_, _, _, rfl, h1, h2, h3, hf.2.1, hf.2.2, hlc⟩
    | verbatimEmpty _ _ _ _ => exact absurd rfl hne
  · rintro ⟨s1, s2, s3, rfl, h1, h2, h3, hfree, hrest, hlc⟩
    exact ⟨s1 :: s2 :: QMARK :: s3 :: name, rfl, .verbatim h1 h2 h3 ⟨hne, hfree, hrest⟩ hlc fun e => absurd e hunc⟩

end TP.Win
