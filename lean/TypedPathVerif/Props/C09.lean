/-
Props/C09.lean — parent, ancestors and pop remove exactly the last component.

Generic over the encoding where possible.  The clause "the parent's components are the
original's without the last one" needs law (R) (re-parsing the remaining bytes): here it is proved
for Unix (`unix_parent_comps`); for both encodings it holds of the parser state (`parent_state_comps`,
which with `parent_eq_some_iff` stands in Lemmas/EncNew under this namespace); the Windows re-parse
clause, for paths without a prefix-like start or with a complete prefix, is `C09b.win_parent_comps`.
`ancestors` is in Props/C09b.
-/
import TypedPathVerif.Props.C01

namespace TP.C09

/-- The parent is absent exactly when the path is empty or ends in a root or a prefix. -/
theorem parent_none_iff (e : Enc) (b : Bytes) :
    parent e b = none ↔
      (comps e b = [] ∨ ∃ c, (comps e b).getLast? = some c ∧ (c = .root ∨ ∃ p, c = .pfx p)) := by
  cases hp : parent e b with
  | some q =>
    obtain ⟨c, s', hb, hc, _⟩ := parent_eq_some_iff.mp hp
    have hl := (parent_state_comps e b hb).2
    refine ⟨fun h => (nomatch h), ?_⟩
    rintro (h0 | ⟨c', hc', hk⟩)
    · rw [h0] at hl
      cases hl
    · cases hl.symm.trans hc'
      rw [(removable_iff c).mpr hk] at hc
      cases hc
  | none =>
    refine ⟨fun _ => ?_, fun _ => rfl⟩
    cases hb : (e.new b).nextBack with
    | none => exact .inl ((nextBack_new_none_iff e b).mp hb)
    | some r =>
      obtain ⟨c, s'⟩ := r
      refine .inr ⟨c, (parent_state_comps e b hb).2, (removable_iff c).mp ?_⟩
      -- not removable, or `parent` would have answered
      cases hr : removable c with
      | false => rfl
      | true =>
        rw [parent_eq_some_iff.mpr ⟨c, s', hb, hr, rfl⟩] at hp
        cases hp

/-- The parent is a proper leading byte-slice of the path: what the back step removed is a non-empty piece of
well-formed tokens, so it has bytes. -/
theorem parent_proper_prefix (e : Enc) (b q : Bytes) (h : parent e b = some q) : ∃ x, x ≠ [] ∧ b = q ++ x := by
  obtain ⟨c, ts', hbt, _, rfl⟩ := parent_eq_some h
  obtain ⟨x, hxne, hx⟩ := backT_proper_prefix hbt
  obtain ⟨f, hw⟩ := new_toks_wf e b
  refine ⟨untoks x, fun h0 => hxne (untoks_eq_nil (WFToks_suffix ts' (hx ▸ hw)) h0), ?_⟩
  have := new_remaining e b
  rw [PState.remaining, hx, untoks_append, ← List.append_assoc] at this
  exact this.symm

theorem parent_is_prefix (e : Enc) (b q : Bytes) (h : parent e b = some q) : ∃ r, b = q ++ r :=
  let ⟨x, _, hx⟩ := parent_proper_prefix e b q h
  ⟨x, hx⟩

/-- `pop` truncates the buffer to exactly the parent and reports `true`; with no parent it
returns `false` and changes nothing. -/
theorem pop_eq_parent (e : Enc) (b : Bytes) :
    pop e b = match parent e b with
      | some q => (q, true)
      | none => (b, false) := by
  unfold pop
  cases h : parent e b with
  | none => rfl
  | some q =>
    obtain ⟨r, hr⟩ := parent_is_prefix e b q h
    simp only
    conv => lhs; rw [hr]
    simp

theorem unix_parent_comps (b q : Bytes) (h : parent .unix b = some q) :
    comps .unix q = (comps .unix b).dropLast := by
  obtain ⟨c, s', hb, _, rfl⟩ := parent_eq_some_iff.mp h
  rw [unix_reparse ((reach_new_unix b).back hb) (nextBack_pre_none rfl hb)]
  exact (parent_state_comps .unix b hb).1

/-- Unix: a parent is what `StdSpec` prescribes, a byte-prefix whose std components are std's
components minus the last.  (Absent iff std's list is empty or ends in the root: `parent_none_iff`
read through `C01.unix_front_all`.) -/
theorem unix_parent_vs_std (b q : Bytes) (h : parent .unix b = some q) :
    StdSpec.comps q = (StdSpec.comps b).dropLast ∧ ∃ r, b = q ++ r := by
  rw [← C01.unix_front_all, ← C01.unix_front_all]
  exact ⟨unix_parent_comps b q h, parent_is_prefix .unix b q h⟩

-- `/a/b/` → `/a`; `/` and `C:` have no parent; `C:\a` → `C:\`, by `parent` and by `pop`

example : parent .unix [47, 97, 47, 98, 47] = some [47, 97] := by decide +kernel
example : parent .unix [47] = none := by decide +kernel
example : parent .windows [67, 58] = none := by decide +kernel
example : parent .windows [67, 58, 92, 97] = some [67, 58, 92] := by decide +kernel
example : pop .windows [67, 58, 92, 97] = ([67, 58, 92], true) := by decide +kernel

end TP.C09
