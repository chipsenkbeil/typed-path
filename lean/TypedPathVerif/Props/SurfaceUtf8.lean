/-
Props/SurfaceUtf8.lean — the trait-impl surface of the `utf8` group of source files, as the checks of C14 were
written against it.  `Generated.implMethods_utf8` is regenerated on every run (gen/api.py): every
trait impl outside test modules with the methods written inside it — required ones and overridden
provided ones alike.  An added override (`nth`, `size_hint`, `clone_into`, `fold`, …), a new impl
or a removed one changes the regenerated table and breaks `impl_methods_utf8`, so C14 is reported as
no longer shown for "every operation".
-/
import TypedPathVerif.Generated.Api

namespace TP.SurfaceUtf8

def covered : List String :=
  ["common/utf8/iter | fmt::Debug for Utf8Iter<T> | fmt",
   "common/utf8/iter | fmt::Debug for DebugHelper<T> | fmt",
   "common/utf8/iter | AsRef<Utf8Path<T>> for Utf8Iter<T> | as_ref",
   "common/utf8/iter | AsRef<[u8]> for Utf8Iter<T> | as_ref",
   "common/utf8/iter | AsRef<str> for Utf8Iter<T> | as_ref",
   "common/utf8/iter | Iterator for Utf8Iter<T> | next",
   "common/utf8/iter | DoubleEndedIterator for Utf8Iter<T> | next_back",
   "common/utf8/iter | Iterator for Utf8Ancestors<T> | next",
   "common/utf8/path | Clone for Box<Utf8Path<T>> | clone",
   "common/utf8/path | AsRef<[u8]> for Utf8Path<T> | as_ref",
   "common/utf8/path | AsRef<str> for Utf8Path<T> | as_ref",
   "common/utf8/path | AsRef<Utf8Path<T>> for Utf8Path<T> | as_ref",
   "common/utf8/path | AsRef<Utf8Path<T>> for str | as_ref",
   "common/utf8/path | AsRef<Utf8Path<T>> for Cow<str> | as_ref",
   "common/utf8/path | AsRef<Utf8Path<T>> for String | as_ref",
   "common/utf8/path | fmt::Debug for Utf8Path<T> | fmt",
   "common/utf8/path | fmt::Display for Utf8Path<T> | fmt",
   "common/utf8/path | cmp::PartialEq for Utf8Path<T> | eq",
   "common/utf8/path | Hash for Utf8Path<T> | hash",
   "common/utf8/path | cmp::PartialOrd for Utf8Path<T> | partial_cmp",
   "common/utf8/path | cmp::Ord for Utf8Path<T> | cmp",
   "common/utf8/path | From<&Utf8Path<T>> for Box<Utf8Path<T>> | from",
   "common/utf8/path | From<Cow<Utf8Path<T>>> for Box<Utf8Path<T>> | from",
   "common/utf8/path | From<Utf8PathBuf<T>> for Box<Utf8Path<T>> | from",
   "common/utf8/path | From<&Utf8Path<T>> for Cow<Utf8Path<T>> | from",
   "common/utf8/path | From<Utf8PathBuf<T>> for Cow<Utf8Path<T>> | from",
   "common/utf8/path | From<&Utf8PathBuf<T>> for Cow<Utf8Path<T>> | from",
   "common/utf8/path | From<Utf8PathBuf<T>> for Arc<Utf8Path<T>> | from",
   "common/utf8/path | From<&Utf8Path<T>> for Arc<Utf8Path<T>> | from",
   "common/utf8/path | From<Utf8PathBuf<T>> for Rc<Utf8Path<T>> | from",
   "common/utf8/path | From<&Utf8Path<T>> for Rc<Utf8Path<T>> | from",
   "common/utf8/path | IntoIterator for &Utf8Path<T> | into_iter",
   "common/utf8/path | ToOwned for Utf8Path<T> | to_owned",
   "common/utf8/path | PartialEq<$rhs> for $lhs | eq",
   "common/utf8/path | PartialEq<$lhs> for $rhs | eq",
   "common/utf8/path | PartialOrd<$rhs> for $lhs | partial_cmp",
   "common/utf8/path | PartialOrd<$lhs> for $rhs | partial_cmp",
   "common/utf8/path | PartialEq<$rhs> for $lhs | eq",
   "common/utf8/path | PartialEq<$lhs> for $rhs | eq",
   "common/utf8/path | PartialOrd<$rhs> for $lhs | partial_cmp",
   "common/utf8/path | PartialOrd<$lhs> for $rhs | partial_cmp",
   "common/utf8/path | TryAsRef<Utf8Path<T>> for OsStr | try_as_ref",
   "common/utf8/path | TryAsRef<Utf8Path<T>> for OsString | try_as_ref",
   "common/utf8/path | AsRef<OsStr> for Utf8Path<T> | as_ref",
   "common/utf8/pathbuf | Clone for Utf8PathBuf<T> | clone",
   "common/utf8/pathbuf | fmt::Debug for Utf8PathBuf<T> | fmt",
   "common/utf8/pathbuf | AsRef<[u8]> for Utf8PathBuf<T> | as_ref",
   "common/utf8/pathbuf | AsRef<str> for Utf8PathBuf<T> | as_ref",
   "common/utf8/pathbuf | AsRef<Utf8Path<T>> for Utf8PathBuf<T> | as_ref",
   "common/utf8/pathbuf | Borrow<Utf8Path<T>> for Utf8PathBuf<T> | borrow",
   "common/utf8/pathbuf | Default for Utf8PathBuf<T> | default",
   "common/utf8/pathbuf | fmt::Display for Utf8PathBuf<T> | fmt",
   "common/utf8/pathbuf | Deref for Utf8PathBuf<T> | deref",
   "common/utf8/pathbuf | PartialEq for Utf8PathBuf<T> | eq",
   "common/utf8/pathbuf | Extend<P> for Utf8PathBuf<T> | extend",
   "common/utf8/pathbuf | From<Box<Utf8Path<T>>> for Utf8PathBuf<T> | from",
   "common/utf8/pathbuf | From<&V> for Utf8PathBuf<T> | from",
   "common/utf8/pathbuf | From<String> for Utf8PathBuf<T> | from",
   "common/utf8/pathbuf | From<Utf8PathBuf<T>> for String | from",
   "common/utf8/pathbuf | FromStr for Utf8PathBuf<T> | from_str",
   "common/utf8/pathbuf | From<Cow<Utf8Path<T>>> for Utf8PathBuf<T> | from",
   "common/utf8/pathbuf | FromIterator<P> for Utf8PathBuf<T> | from_iter",
   "common/utf8/pathbuf | Hash for Utf8PathBuf<T> | hash",
   "common/utf8/pathbuf | IntoIterator for &Utf8PathBuf<T> | into_iter",
   "common/utf8/pathbuf | cmp::PartialOrd for Utf8PathBuf<T> | partial_cmp",
   "common/utf8/pathbuf | cmp::Ord for Utf8PathBuf<T> | cmp",
   "common/utf8/pathbuf | From<Utf8PathBuf<T>> for OsString | from",
   "common/utf8/pathbuf | AsRef<OsStr> for Utf8PathBuf<T> | as_ref",
   "unix/utf8 | Utf8Encoding<> for Utf8UnixEncoding | label,components,hash,push,push_checked",
   "unix/utf8 | fmt::Debug for Utf8UnixEncoding | fmt",
   "unix/utf8 | fmt::Display for Utf8UnixEncoding | fmt",
   "unix/utf8/components | Utf8Components<> for Utf8UnixComponents<> | as_str,is_absolute,has_root",
   "unix/utf8/components | AsRef<[u8]> for Utf8UnixComponents<> | as_ref",
   "unix/utf8/components | AsRef<str> for Utf8UnixComponents<> | as_ref",
   "unix/utf8/components | AsRef<Utf8Path<T>> for Utf8UnixComponents<> | as_ref",
   "unix/utf8/components | fmt::Debug for Utf8UnixComponents<> | fmt",
   "unix/utf8/components | fmt::Debug for DebugHelper<> | fmt",
   "unix/utf8/components | Iterator for Utf8UnixComponents<> | next",
   "unix/utf8/components | DoubleEndedIterator for Utf8UnixComponents<> | next_back",
   "unix/utf8/components | cmp::PartialEq for Utf8UnixComponents<> | eq",
   "unix/utf8/components | cmp::PartialOrd for Utf8UnixComponents<> | partial_cmp",
   "unix/utf8/components | cmp::Ord for Utf8UnixComponents<> | cmp",
   "unix/utf8/components/component | Utf8Component<> for Utf8UnixComponent<> | as_str,is_root,is_normal,is_parent,is_current,is_valid,len,root,parent,current",
   "unix/utf8/components/component | fmt::Display for Utf8UnixComponent<> | fmt",
   "unix/utf8/components/component | AsRef<[u8]> for Utf8UnixComponent<> | as_ref",
   "unix/utf8/components/component | AsRef<str> for Utf8UnixComponent<> | as_ref",
   "unix/utf8/components/component | AsRef<Utf8Path<T>> for Utf8UnixComponent<> | as_ref",
   "unix/utf8/components/component | TryFrom<UnixComponent<>> for Utf8UnixComponent<> | try_from",
   "unix/utf8/components/component | TryFrom<&str> for Utf8UnixComponent<> | try_from",
   "windows/utf8 | Utf8Encoding<> for Utf8WindowsEncoding | label,components,hash,push,push_checked",
   "windows/utf8 | fmt::Debug for Utf8WindowsEncoding | fmt",
   "windows/utf8 | fmt::Display for Utf8WindowsEncoding | fmt",
   "windows/utf8/components | Utf8Components<> for Utf8WindowsComponents<> | as_str,is_absolute,has_root",
   "windows/utf8/components | AsRef<[u8]> for Utf8WindowsComponents<> | as_ref",
   "windows/utf8/components | AsRef<str> for Utf8WindowsComponents<> | as_ref",
   "windows/utf8/components | AsRef<Utf8Path<T>> for Utf8WindowsComponents<> | as_ref",
   "windows/utf8/components | fmt::Debug for Utf8WindowsComponents<> | fmt",
   "windows/utf8/components | fmt::Debug for DebugHelper<> | fmt",
   "windows/utf8/components | Iterator for Utf8WindowsComponents<> | next",
   "windows/utf8/components | DoubleEndedIterator for Utf8WindowsComponents<> | next_back",
   "windows/utf8/components | cmp::PartialEq for Utf8WindowsComponents<> | eq",
   "windows/utf8/components | cmp::PartialOrd for Utf8WindowsComponents<> | partial_cmp",
   "windows/utf8/components | cmp::Ord for Utf8WindowsComponents<> | cmp",
   "windows/utf8/components/component | Utf8Component<> for Utf8WindowsComponent<> | as_str,is_root,is_normal,is_parent,is_current,is_valid,len,root,parent,current",
   "windows/utf8/components/component | fmt::Display for Utf8WindowsComponent<> | fmt",
   "windows/utf8/components/component | AsRef<[u8]> for Utf8WindowsComponent<> | as_ref",
   "windows/utf8/components/component | AsRef<str> for Utf8WindowsComponent<> | as_ref",
   "windows/utf8/components/component | AsRef<Utf8Path<T>> for Utf8WindowsComponent<> | as_ref",
   "windows/utf8/components/component | TryFrom<&str> for Utf8WindowsComponent<> | try_from",
   "windows/utf8/components/component/prefix | TryFrom<&str> for Utf8WindowsPrefixComponent<> | try_from",
   "windows/utf8/components/component/prefix | cmp::PartialEq for Utf8WindowsPrefixComponent<> | eq",
   "windows/utf8/components/component/prefix | cmp::PartialOrd for Utf8WindowsPrefixComponent<> | partial_cmp",
   "windows/utf8/components/component/prefix | cmp::Ord for Utf8WindowsPrefixComponent<> | cmp",
   "windows/utf8/components/component/prefix | Hash for Utf8WindowsPrefixComponent<> | hash",
   "windows/utf8/components/component/prefix | TryFrom<&str> for Utf8WindowsPrefix<> | try_from"]

theorem impl_methods_utf8 : Generated.implMethods_utf8 = covered := rfl

end TP.SurfaceUtf8
