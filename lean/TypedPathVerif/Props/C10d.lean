/-
Props/C10d.lean — C10 continued: `strip_prefix` under a VERBATIM prefix.

For a path and a base that both carry a complete verbatim prefix: when `strip_prefix` succeeds
with a non-empty remainder `r` that does not start like a prefix and contains no `/` (under an
exact `\\?\` prefix `/` is an ordinary name byte, which the re-read remainder would split on; `/`
is forbidden in Windows names), the path's components are the base's followed by a rest `rem`, and
the base joined with the remainder is the documented verbatim scan of the base's components and
`rem` — "q joined with r equals p up to the normalisation that joining onto a verbatim prefix
applies" (`win_strip_join_verbatim`).  The scan does not see `.` (`fold_dropCur`), and apart from `.` the
remainder reads the same with the path's own flag at its own position as afresh without the verbatim flag
(`dropCur_compsT`).
-/
import TypedPathVerif.Props.C10c
import TypedPathVerif.Props.C08c

namespace TP.C10d

open TP.Win TP.JoinRules

def dropCur : List Comp → List Comp
  | [] => []
  | .cur :: r => dropCur r
  | c :: r => c :: dropCur r

theorem fold_dropCur : ∀ (cs L : List Comp), verbatimFold L cs = verbatimFold L (dropCur cs) := by
  intro cs
  induction cs with
  | nil => exact fun _ => rfl
  | cons c cs ih =>
    intro L
    rw [verbatimFold_cons]
    cases c with
    | cur => exact ih L
    | _ => exact (ih _).trans (verbatimFold_cons L _ (dropCur cs)).symm

theorem dropCur_body (k : Bool) : ∀ (ts : List Tok), dropCur (body k ts) = body false ts
  | [] => rfl
  | .sep x :: r => by
    rw [body_cons_junk r rfl, body_cons_junk r rfl]
    exact dropCur_body k r
  | .seg s :: r => by
    by_cases hs : s = CUR
    · -- a `.` is either skipped by the parser or dropped here
      subst hs
      rw [body_cons_junk (k := false) r (by decide), ← dropCur_body k r]
      cases k with
      | false => rw [body_cons_junk r (by decide)]
      | true =>
        rw [body_cons_seg r (by decide)]
        rfl
    · rw [body_cons_seg r (junk_seg_of_ne hs), body_cons_seg r (junk_seg_of_ne hs), ← dropCur_body k r]
      rcases segComp_cases true s with h | h | h
      · rw [h.1]
        rfl
      · exact absurd h.2 hs
      · rw [h]
        rfl

/-- the scan sees the same components whether the remainder is read with the path's own flag at
its own position, or afresh without the verbatim flag -/
theorem dropCur_compsT (k ab : Bool) (ts : List Tok) (hinv : ab = true ∨ noLeadJunk k ts) :
    dropCur (compsT k ab ts) = dropCur (compsT false true ts) := by
  rw [compsT_of_inv hinv]
  cases ts with
  | nil => simp
  | cons t r =>
    rw [compsT_true_cons, compsT_true_cons]
    cases headComp t <;> simp [dropCur, dropCur_body]

/-- **Windows, complete verbatim prefixes on both sides.**  If `strip_prefix` succeeds with a
non-empty remainder that neither starts like a prefix nor contains `/` (the latter only matters
under an exact `\\?\` prefix), then the path's components are the base's followed by some `rem`,
and the base joined with the remainder is the verbatim scan of the base's components and `rem`. -/
theorem win_strip_join_verbatim (p q r restp restq : Bytes) (pp pq : PrefixComp)
    (hpp : parsePrefixComp p = some (pp, restp)) (hcp : Complete pp.kind)
    (hpq : parsePrefixComp q = some (pq, restq)) (hcq : Complete pq.kind) (hvq : isVerbatimKind pq.kind = true)
    (hrestq : HeadOK (wsep (normOf pq.raw)) restq)
    (h : stripPrefix .windows p q = some r) (hrne : r ≠ []) (hr : C16.pfxStart r = false)
    (hslash : normOf pp.raw = true ∨ ∀ y ∈ r, y ≠ SLASH) :
    ∃ rem, comps .windows p = comps .windows q ++ rem ∧
      comps .windows (push .windows q r) = withRoot (verbatimFold (comps .windows q) rem) := by
  obtain ⟨s', xs, ⟨hk, hwf, hinv⟩, hnone, hstrip, hmap, hxs⟩ := strip_reach (reach_new_of_parse hpp) h
  have hpre : s'.pre = none := hnone (.inl (by rw [comps_of_parse hpq]; simp))
  obtain ⟨hpe, hxs'⟩ := C10c.walked_eq_base hpp hcp hpq hcq hxs hmap
  subst hpe
  subst hxs'
  refine ⟨s'.comps, hxs, ?_⟩
  have hrem : r = untoks s'.toks := by
    rw [← hstrip]
    simp [PState.remaining, PState.preBytes, hpre]
  -- read afresh, the remainder has the tokens left in the state: the two separator sets differ on `/` only
  have htoks : toks (wsep true) r = s'.toks := by
    have h1 : toks (wsep true) r = toks (wsep (normOf pp.raw)) r := by
      rcases hslash with hn | hs
      · rw [hn]
      · apply toks_congr
        intro y hy
        have := hs y hy
        cases normOf pp.raw with
        | true => rfl
        | false => simp [wsep, this]
    rw [h1, hrem, toks_untoks _ hwf]
  have hcr : comps .windows r = compsT false true s'.toks := by
    rw [C16.win_comps_pf r hr, htoks]
  have hrc : s'.comps = compsT (!normOf pp.raw) true s'.toks := by
    rw [comps_eq_closed s' hinv, PState.closed, hpre, hk]
    rfl
  rw [(C08d.win_push_comps_verbatim_any q r restq pp hpq hcq hvq hrestq hrne hr).1]
  congr 1
  rw [fold_dropCur (comps .windows r), fold_dropCur s'.comps, hcr, hrc,
    dropCur_compsT (!normOf pp.raw) true _ (.inl rfl)]

-- `\\?\C:\a\.\b` stripped of `\\?\C:\a` is `.\b`; joined back it is `\\?\C:\a\b`
example : stripPrefix .windows [92, 92, 63, 92, 67, 58, 92, 97, 92, 46, 92, 98] [92, 92, 63, 92, 67, 58, 92, 97]
    = some [46, 92, 98] := by
  unfold stripPrefix; rw [C03.comps_new_closed]; decide +kernel

end TP.C10d
