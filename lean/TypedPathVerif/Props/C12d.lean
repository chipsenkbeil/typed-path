/-
Props/C12d.lean — C12 / C11 continued: Windows paths with a VERBATIM prefix.

Pushing a portable single name onto a verbatim-prefixed buffer (`VBase`) appends exactly one normal component, root
after the prefix written out (`push_name_verbatim`, from `C08c.win_push_comps_verbatim_stable`).  With it the
arguments of Props/C12c and Props/C11b go through: replacing the file name of such a path gives file name `n` and a
parent with the old parent's components, root after the prefix written out (`win_with_file_name_verbatim`, C12);
`normalize` of such a path, all of whose names are portable, has exactly the lexically folded components, hence no
`.` / `..`, and is idempotent (`win_normalize_verbatim`, C11).
-/
import TypedPathVerif.Props.C08c
import TypedPathVerif.Props.C12
import TypedPathVerif.Props.C16b

namespace TP.C12d

open TP.JoinRules TP.Win

/-- covered verbatim-prefixed paths: a complete verbatim prefix, followed by nothing or a separator -/
structure VBase (b : Bytes) (p : PrefixComp) (rest : Bytes) : Prop where
  parse : parsePrefixComp b = some (p, rest)
  complete : Complete p.kind
  verbatim : isVerbatimKind p.kind = true
  head : HeadOK (wsep (normOf p.raw)) rest

theorem VBase.stable {b rest : Bytes} {p : PrefixComp} (h : VBase b p rest) : Stable p :=
  stable_of_complete h.parse h.complete

theorem VBase.of_rest {b rest : Bytes} {p : PrefixComp} (h : VBase b p rest) {rest' : Bytes}
    (hh : HeadOK (wsep (normOf p.raw)) rest') : VBase (p.raw ++ rest') p rest' :=
  ⟨(h.stable rest' (restOK_of_headOK fun _ => hh)).1, h.complete, h.verbatim, hh⟩

theorem portable_item (n : Bool) {s : Bytes} (h : C16b.portable s) : Item n (.normal s) := by
  obtain ⟨h1, h2, h3, h4⟩ := h
  exact .normal h1 (fun y hy => not_wsep_of_not_anySep (h4 y hy).1) h2 h3

theorem push_name_verbatim (b n rest : Bytes) (p : PrefixComp) (hb : VBase b p rest) (hn : C16b.portable n) :
    comps .windows (push .windows b n) = withRoot (comps .windows b ++ [.normal n]) ∧
    ∃ rest', VBase (push .windows b n) p rest' := by
  obtain ⟨h1, _, rest', h2, h3, _⟩ := C08c.win_push_comps_verbatim_stable b n rest p hb.parse hb.stable
    hb.verbatim hb.head hn.1 (C16b.portable_pf hn).1
  rw [C16b.win_comps_name hn] at h1
  exact ⟨h1, rest', h2 ▸ hb.of_rest h3⟩

theorem VBase.parent {b q rest : Bytes} {p : PrefixComp} (hb : VBase b p rest) (h : parent .windows b = some q) :
    ∃ rest', VBase q p rest' ∧ comps .windows q = (comps .windows b).dropLast := by
  obtain ⟨rest', t, rfl, ht, _, hcomps⟩ := Win.parent_of_stable hb.parse hb.stable h
  -- a leading piece of `rest` starts as `rest` does
  exact ⟨rest', hb.of_rest (headOK_prefix (ht ▸ hb.head)), hcomps⟩

/-- **Windows `with_file_name` on verbatim-prefixed paths.** -/
theorem win_with_file_name_verbatim (b n rest : Bytes) (p : PrefixComp) (hb : VBase b p rest)
    (hn : C16b.portable n) :
    (∀ f, fileName .windows b = some f →
      fileName .windows (setFileName .windows b n) = some n ∧
      ∃ q q', parent .windows b = some q ∧ parent .windows (setFileName .windows b n) = some q' ∧
        comps .windows q' = (withRoot (comps .windows q ++ [.normal n])).dropLast) ∧
    (fileName .windows b = none → setFileName .windows b n = push .windows b n) := by
  refine ⟨fun f hf => ?_, C12.setFileName_of_none⟩
  obtain ⟨q, hp⟩ := C12.parent_of_fileName hf
  obtain ⟨rest', hbq, _⟩ := hb.parent hp
  rw [C12.setFileName_of_fileName n hf hp]
  obtain ⟨hres, rest'', hbr⟩ := push_name_verbatim q n rest' p hbq hn
  -- the pushed name is the last component of the result, whether or not a root was written
  have hfn : fileName .windows (push .windows q n) = some n := by
    rw [C12.file_name_iff_last_normal, hres, withRoot_getLast?, List.getLast?_concat]
  obtain ⟨q', hp'⟩ := C12.parent_of_fileName hfn
  obtain ⟨_, _, hcq'⟩ := hbr.parent hp'
  exact ⟨hfn, q, q', hp, hp', by rw [hcq', hres]⟩

theorem withRoot_rooted (p : PrefixComp) (r : List Comp) : withRoot (.pfx p :: .root :: r) = .pfx p :: .root :: r := rfl

theorem pushAll_names_verbatim (p : PrefixComp) (cs : List Comp)
    (hok : ∀ c ∈ cs, ∃ s, c = .normal s ∧ C16b.portable s)
    (buf rest : Bytes) (r : List Comp) (hb : VBase buf p rest) (hc : comps .windows buf = .pfx p :: .root :: r) :
    comps .windows (pushAll .windows buf cs) = .pfx p :: .root :: (r ++ cs) := by
  let P : Bytes → Prop := fun b => ∃ rest r, VBase b p rest ∧ comps .windows b = .pfx p :: .root :: r
  have hstep : ∀ b, ∀ c ∈ cs, P b → P (push .windows b (c.bytes .windows)) ∧
      comps .windows (push .windows b (c.bytes .windows)) = comps .windows b ++ [c] := by
    intro b c hm ⟨rest, r, hb, hc⟩
    obtain ⟨s, rfl, hs⟩ := hok c hm
    obtain ⟨h1, rest', hb'⟩ := push_name_verbatim b s rest p hb hs
    rw [hc] at h1
    -- the buffer holds the root already, so none is written out
    have h2 : comps .windows (push .windows b s) = .pfx p :: .root :: (r ++ [.normal s]) := h1
    exact ⟨⟨rest', r ++ [Comp.normal s], hb', h2⟩, h2.trans (by rw [hc]; rfl)⟩
  rw [(pushAll_comps _ buf hstep ⟨rest, r, hb, hc⟩).2, hc]
  rfl

theorem push_prefix_verbatim {b rest : Bytes} {p : PrefixComp} (hb : VBase b p rest) :
    comps .windows p.raw = [.pfx p] ∧
    ∃ rest', VBase (push .windows p.raw [BSLASH]) p rest' ∧
      comps .windows (push .windows p.raw [BSLASH]) = [.pfx p, .root] := by
  have hb0 : VBase (p.raw ++ []) p [] := hb.of_rest trivial
  rw [List.append_nil] at hb0
  have c0 := (bare_of_stable hb.stable).2
  refine ⟨c0, ?_⟩
  -- the root: the scan under the verbatim prefix, with the single incoming component `root`
  obtain ⟨h1, _, rest', h2, h3, _⟩ := C08c.win_push_comps_verbatim_stable p.raw [BSLASH] [] p hb0.parse
    hb.stable hb.verbatim trivial (by simp) (by decide)
  refine ⟨rest', h2 ▸ hb.of_rest h3, ?_⟩
  rw [h1, c0, Win.comps_win_root]
  rfl

/-- **Windows `normalize` on verbatim-prefixed paths** with portable names. -/
theorem win_normalize_verbatim (b rest : Bytes) (p : PrefixComp) (hb : VBase b p rest)
    (hnames : ∀ s, Comp.normal s ∈ comps .windows b → C16b.portable s) :
    comps .windows (normalize .windows b) = normFold [] (comps .windows b) := by
  obtain ⟨c0, rest1, hb1, c1⟩ := push_prefix_verbatim hb
  unfold normalize
  rcases C08c.base_comps hb.parse hb.head with hcb | ⟨items, hi, hcb⟩
  · rw [hcb]
    exact (congrArg (comps .windows) (C08.win_push_empty_base p.raw)).trans c0
  · rw [hcb] at hnames ⊢
    -- the fold keeps the prefix and the root; what it keeps of the items are names
    rw [normFold_nil_cons (c := .pfx p) ⟨nofun, nofun⟩ rfl, normFold_nil_cons (c := .root) ⟨nofun, nofun⟩ rfl]
    show comps .windows (pushAll .windows (push .windows (push .windows [] p.raw) [BSLASH]) _) = _
    rw [C08.win_push_empty_base, pushAll_names_verbatim p _ (fun c hc => ?_) _ rest1 [] hb1 c1]
    · rfl
    · obtain ⟨hm, h1, h2⟩ := normFold_mem hc
      rcases hi c hm with ⟨h, _⟩ | h | ⟨s, rfl, _⟩
      · exact absurd h h1
      · exact absurd h h2
      · exact ⟨s, rfl, hnames s (List.mem_cons_of_mem _ (List.mem_cons_of_mem _ hm))⟩

theorem win_normalize_verbatim_no_dots (b rest : Bytes) (p : PrefixComp) (hb : VBase b p rest)
    (hnames : ∀ s, Comp.normal s ∈ comps .windows b → C16b.portable s) :
    (∀ c ∈ comps .windows (normalize .windows b), c ≠ .cur ∧ c ≠ .parent) ∧
    normalize .windows (normalize .windows b) = normalize .windows b :=
  have h := win_normalize_verbatim b rest p hb hnames
  ⟨normalize_no_dots_of_render .windows b h, normalize_idem_of_render .windows b h⟩

end TP.C12d
