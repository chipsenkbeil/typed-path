/-
Props/C13.lean — set_extension changes only the extension of the final component.

Byte-level theorem for both encodings: the buffer is cut exactly at the end of the file stem —
whatever separators or `.` segments trail the file name — and `.` + extension is appended; the
cut is followed by a dot, a separator or nothing (hence on a character boundary of any valid
UTF-8 buffer).  Without a file name: `false`, buffer untouched.
-/
import TypedPathVerif.Props.C12

namespace TP.C13

theorem fileName_tokens (e : Enc) (b f : Bytes) (h : fileName e b = some f) :
    ∃ r j, (e.new b).toks = r ++ .seg f :: j ∧ (∀ t ∈ j, junk (e.new b).k t = true) ∧
      junk (e.new b).k (.seg f) = false ∧ segComp (e.new b).k f = .normal f := by
  obtain ⟨s', hb⟩ := C12.fileName_eq_some_iff.mp h
  rcases nextBack_cases hb with ⟨ts', _, hbt, _⟩ | ⟨p, _, _, hc, _⟩
  · rcases backT_cases hbt with ⟨_, _, t, r, _, hc, hj⟩ | ⟨r, s, j, hts, hs, hj, hc, _⟩
    · -- only junk: the first token answered, a separator or `.`, and neither reads as a name
      rcases junk_iff.mp (hj t (by simp)) with ⟨x, rfl⟩ | ⟨_, rfl⟩ <;> cases hc
    · cases segComp_normal hc.symm
      exact ⟨r, j, hts, hj, hs, hc.symm⟩
  · cases hc

/-- `Path::file_stem` as a function of the file name -/
def stemOf (f : Bytes) : Bytes := ((rsplitDot f).1.or (rsplitDot f).2).getD f

theorem stemOf_spec (f : Bytes) :
    (rsplitDot f).1.or (rsplitDot f).2 = some (stemOf f) ∧
      ∃ tl, f = stemOf f ++ tl ∧ (tl = [] ∨ tl.head? = some DOT) ∧ (f ≠ [] → stemOf f ≠ []) := by
  unfold stemOf
  rcases rsplitDot_spec f with ⟨h1, _⟩ | ⟨h1, _⟩ | ⟨before, after, h1, h2, _, hne, _⟩
  · rw [h1]
    exact ⟨rfl, [], (List.append_nil f).symm, .inl rfl, id⟩
  · rw [h1]
    exact ⟨rfl, [], (List.append_nil f).symm, .inl rfl, id⟩
  · rw [h1]
    exact ⟨rfl, DOT :: after, h2, .inr rfl, fun _ => hne⟩

theorem fileStem_of_fileName {e : Enc} {b fn : Bytes} (h : fileName e b = some fn) :
    fileStem e b = some (stemOf fn) := by
  simp only [fileStem, h]
  exact (stemOf_spec fn).1

theorem set_ext_false (e : Enc) (b x : Bytes) (h : fileName e b = none) :
    setExtension e b x = (b, false) := by
  simp [setExtension, h]

/-- the text `set_extension(x)` appends to the stem -/
def dotExt (x : Bytes) : Bytes := if x = [] then [] else DOT :: x

theorem dotExt_head (x : Bytes) : dotExt x = [] ∨ (dotExt x).head? = some DOT := by
  unfold dotExt
  split <;> simp

theorem dotExt_free {f : UInt8 → Bool} {x : Bytes} (hdot : f DOT = false) (hx : ∀ y ∈ x, f y = false) :
    ∀ y ∈ dotExt x, f y = false := by
  intro y hy
  unfold dotExt at hy
  split at hy
  · cases hy
  · rcases List.mem_cons.mp hy with hy | hy
    · rw [hy]
      exact hdot
    · exact hx y hy

theorem setExtension_of_fileName {e : Enc} {b fn : Bytes} (x : Bytes) (h : fileName e b = some fn) :
    setExtension e b x = (b.take (lastCompEnd e b - fn.length + (stemOf fn).length) ++ dotExt x, true) := by
  simp only [setExtension, h, fileStem_of_fileName h]
  rfl

/-- **`set_extension`, on tokens**: everything up to the end of the stem is kept, whatever trails the
file name.  Where the file name sits among the tokens is a hypothesis (`fileName_tokens` supplies it):
`C07.setExtension_trailing_sep` needs the result for `m` and for `m/` with the same `r`. -/
theorem setExtension_eq (e : Enc) (b x fn : Bytes) (h : fileName e b = some fn) {r j : List Tok}
    (hts : (e.new b).toks = r ++ .seg fn :: j) (hnj : junk (e.new b).k (.seg fn) = false)
    (hjunk : ∀ t ∈ j, junk (e.new b).k t = true) :
    setExtension e b x = ((e.new b).preBytes ++ (untoks r ++ (stemOf fn ++ dotExt x)), true) := by
  obtain ⟨_, tl, hf, _⟩ := stemOf_spec fn
  have hrem := new_remaining e b
  simp only [PState.remaining, hts, untoks_append] at hrem
  -- the cut: `lastCompEnd` is the end of the file-name token
  have hcut : lastCompEnd e b - fn.length + (stemOf fn).length =
      ((e.new b).preBytes ++ (untoks r ++ stemOf fn)).length := by
    unfold lastCompEnd
    simp only [hts, skipBack_lastSeg r hnj hjunk, untoks_append, untoks, Tok.bytes, List.append_nil,
      List.length_append]
    omega
  generalize (e.new b).preBytes = P at hrem hcut ⊢
  have hb' : b = (P ++ (untoks r ++ stemOf fn)) ++ (tl ++ untoks j) := by
    rw [← hrem]
    conv => lhs; rw [hf]
    simp [untoks, Tok.bytes, List.append_assoc]
  rw [setExtension_of_fileName x h, hcut]
  conv => lhs; rw [hb']
  rw [List.take_left' rfl]
  simp only [List.append_assoc]

/-- For a path with file name `f`: the buffer is `pre ++ f ++ junk` where `junk` consists of
separator and (when normalising) `.` tokens only; `set_extension x` returns `true` and the
new buffer is `pre ++ stem ++ "." ++ x` (nothing appended for an empty `x`) — i.e. everything
up to the end of the stem is kept byte for byte, whatever trails the file name. -/
theorem set_ext_bytes (e : Enc) (b x f : Bytes) (h : fileName e b = some f) :
    ∃ pre j st rest, b = pre ++ f ++ untoks j ∧ (∀ t ∈ j, junk (e.new b).k t = true) ∧
      fileStem e b = some st ∧ f = st ++ rest ∧ (rest = [] ∨ rest.head? = some DOT) ∧
      setExtension e b x = (pre ++ st ++ (if x = [] then [] else DOT :: x), true) := by
  obtain ⟨r, j, hts, hj, hnj, _⟩ := fileName_tokens e b f h
  obtain ⟨_, tl, hf, htl, _⟩ := stemOf_spec f
  refine ⟨(e.new b).preBytes ++ untoks r, j, stemOf f, tl, ?_, hj, fileStem_of_fileName h, hf, htl, ?_⟩
  · have := new_remaining e b
    simp only [PState.remaining, hts, untoks_append] at this
    exact this.symm.trans (by simp [untoks, Tok.bytes, List.append_assoc])
  · rw [setExtension_eq e b x f h hts hnj hj]
    simp only [dotExt, List.append_assoc]

/-- `set_ext_bytes` with the token decomposition made explicit -/
theorem set_ext_tokens (e : Enc) (b x f : Bytes) (h : fileName e b = some f) :
    ∃ r j st, (e.new b).toks = r ++ [.seg f] ++ j ∧ (∀ t ∈ j, junk (e.new b).k t = true) ∧
      fileStem e b = some st ∧
      setExtension e b x = ((e.new b).preBytes ++ untoks r ++ st ++ (if x = [] then [] else DOT :: x), true) := by
  obtain ⟨r, j, hts, hj, hnj, _⟩ := fileName_tokens e b f h
  refine ⟨r, j, stemOf f, by rw [hts, List.append_cons], hj, fileStem_of_fileName h, ?_⟩
  rw [setExtension_eq e b x f h hts hnj hj]
  simp only [dotExt, List.append_assoc]

/-- **`set_extension`, on the tokens the parser holds.**  Let the parser of `b` hold the tokens of `R`
for the separator set `f`.  Then `R = C ++ t`, the result is `preBytes ++ C ++ t'` with the same
non-empty `C` (everything up to the end of the stem) and `t'` empty or starting with a dot, and —
when stem[.x] is a name — the components of `C ++ t'` are those of `R` with the last one replaced. -/
theorem set_ext_compsT (e : Enc) (b x fn : Bytes) (f : UInt8 → Bool) (R : Bytes)
    (htoks : (e.new b).toks = toks f R) (h : fileName e b = some fn)
    (hdot : f DOT = false) (hx : ∀ y ∈ x, f y = false) :
    ∃ C t L, R = C ++ t ∧ C ≠ [] ∧
      (setExtension e b x).1 = (e.new b).preBytes ++ (C ++ dotExt x) ∧
      compsT (e.new b).k true (toks f R) = L ++ [.normal fn] ∧
      (stemOf fn ++ dotExt x ≠ CUR → stemOf fn ++ dotExt x ≠ PAR →
        compsT (e.new b).k true (toks f (C ++ dotExt x)) = L ++ [.normal (stemOf fn ++ dotExt x)]) := by
  obtain ⟨r, j, hts, hj, hfn, hseg⟩ := fileName_tokens e b fn h
  obtain ⟨_, tl, hf, _, hst⟩ := stemOf_spec fn
  have hset := setExtension_eq e b x fn h hts hfn hj
  rw [htoks] at hts
  have hw : WFToks f (r ++ .seg fn :: j) := hts ▸ WFToks_toks f R
  obtain ⟨hne, hfree⟩ := hw.seg_mem fn (by simp)
  have hst' := hst hne
  have hnew : ∀ y ∈ stemOf fn ++ dotExt x, f y = false := by
    intro y hy
    rcases List.mem_append.mp hy with hy | hy
    · exact hfree y (by rw [hf]; exact List.mem_append_left _ hy)
    · exact dotExt_free hdot hx y hy
  refine ⟨untoks r ++ stemOf fn, tl ++ untoks j, compsT (e.new b).k true r, ?_, by simp [hst'],
    by rw [hset, List.append_assoc], ?_, fun hc hp => ?_⟩
  · have := untoks_toks f R
    rw [hts, untoks_append, hf] at this
    exact this.symm.trans (by simp [untoks, Tok.bytes, List.append_assoc])
  · rw [hts, compsT_lastSeg r hfn hj, segComp_of_not_junk hfn, hseg]
  · rw [List.append_assoc]
    exact compsT_replace_last _ hw (by simp [hst']) hnew hc hp

/-- The cut made by `set_extension` is followed, in the old buffer, by a dot, by a token that
is junk (a separator, or a `.` segment) or by nothing: never in the middle of a name, hence
on a character boundary of every valid UTF-8 buffer (the following byte is ASCII). -/
theorem set_ext_cut_boundary (e : Enc) (b x f : Bytes) (h : fileName e b = some f) :
    ∃ pre st after, b = pre ++ st ++ after ∧ fileStem e b = some st ∧
      (setExtension e b x).1 = pre ++ st ++ (if x = [] then [] else DOT :: x) ∧
      (after = [] ∨ after.head? = some DOT ∨
        ∃ t j, junk (e.new b).k t = true ∧ after = untoks (t :: j)) := by
  obtain ⟨pre, j, st, rest, hb, hjunk, hstem, hf, hrest, hset⟩ := set_ext_bytes e b x f h
  refine ⟨pre, st, rest ++ untoks j, ?_, hstem, by rw [hset], ?_⟩
  · rw [hb, hf]; simp [List.append_assoc]
  · rcases hrest with hr | hr
    · subst hr
      cases j with
      | nil => left; rfl
      | cons t j' => right; right; exact ⟨t, j', hjunk t (by simp), by simp⟩
    · right; left
      cases rest with
      | nil => simp at hr
      | cons y ys => simpa using hr

theorem set_ext_true_iff (e : Enc) (b x : Bytes) :
    (setExtension e b x).2 = true ↔ (fileName e b).isSome = true := by
  cases hf : fileName e b with
  | none =>
    rw [set_ext_false e b x hf]
    exact ⟨nofun, nofun⟩
  | some f =>
    rw [setExtension_of_fileName x hf]
    exact ⟨fun _ => rfl, fun _ => rfl⟩

theorem set_ext_total (e : Enc) (b x : Bytes) :
    (∃ r, setExtension e b x = (r, true)) ∨ setExtension e b x = (b, false) := by
  cases hf : fileName e b with
  | none => exact .inr (set_ext_false e b x hf)
  | some f => exact .inl ⟨_, setExtension_of_fileName x hf⟩

-- `a.txt/` + `new` → `a.new`; `a/.` + `x` → `a.x` (the trailing `/.` goes); `C:\` has no file name; `a.` + `` → `a`

example : setExtension .unix [97, 46, 116, 120, 116, 47] [110, 101, 119] = ([97, 46, 110, 101, 119], true) := by decide +kernel
example : setExtension .unix [97, 47, 46] [120] = ([97, 46, 120], true) := by decide +kernel
example : setExtension .windows [67, 58, 92] [120] = ([67, 58, 92], false) := by decide +kernel
example : setExtension .unix [97, 46] [] = ([97], true) := by decide +kernel

end TP.C13
