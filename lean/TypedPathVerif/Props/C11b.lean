/-
Props/C11b.lean — C11 continued: `normalize` on WINDOWS paths.

For every Windows path that does not start like a prefix, or has a complete non-verbatim prefix
(disk, device namespace, UNC with share), and whose names contain no `:` (a byte Windows forbids in
file names; a name such as `C:` pushed back onto the buffer would be read as a drive), the components of
`normalize(p)` are the lexical fold of `p`'s components — `.` dropped, each `..` cancelling the nearest preceding
name and vanishing otherwise, prefix and root kept (`win_normalize_comps`).

Without a prefix the argument is Unix's: the fold only drops components, and what is left of a parsed list,
pushed component by component, parses back to itself (`C16b.win_render_parsed`).  With a prefix, the fold keeps it
and a root after it (`normFold_nil_cons`); what it keeps of the rest are names (`normFold_mem`), and pushing them one
by one onto the rendered prefix (and root) re-parses to exactly that (`pushAll_names`, by `C12c.push_name`).

Paths with a verbatim prefix are rebuilt by `push` from components on every step; their clauses are
`C12d.win_normalize_verbatim` and `win_normalize_verbatim_no_dots`.
-/
import TypedPathVerif.Props.C12c
import TypedPathVerif.Lemmas.NormFold

namespace TP.C11b

open TP.JoinRules

theorem shown_snoc_normal (l : List Comp) (n : Bytes) :
    C12c.shown (l ++ [.normal n]) = l ++ [.normal n] := by
  cases l with
  | nil => rfl
  | cons a t =>
    cases t with
    | nil => exact C12c.shown_cons_cons a _ []
    | cons d t => exact C12c.shown_cons_cons a d _

theorem pushAll_names (cs : List Comp) (hok : ∀ c ∈ cs, ∃ s, c = .normal s ∧ C16b.portable s) (buf : Bytes)
    (hb : C12c.Base buf) (hsh : C12c.shown (comps .windows buf) = comps .windows buf) :
    comps .windows (pushAll .windows buf cs) = comps .windows buf ++ cs := by
  let P : Bytes → Prop := fun b => C12c.Base b ∧ C12c.shown (comps .windows b) = comps .windows b
  have hstep : ∀ b, ∀ c ∈ cs, P b → P (push .windows b (c.bytes .windows)) ∧
      comps .windows (push .windows b (c.bytes .windows)) = comps .windows b ++ [c] := by
    intro b c hc hP
    obtain ⟨s, rfl, hs⟩ := hok c hc
    obtain ⟨hb', hc'⟩ := C12c.push_name b s hP.1 hs
    rw [hP.2] at hc'
    exact ⟨⟨hb', (congrArg C12c.shown hc').trans ((shown_snoc_normal _ s).trans hc'.symm)⟩, hc'⟩
  exact (pushAll_comps _ buf hstep ⟨hb, hsh⟩).2

theorem push_prefix {b rest : Bytes} {p : PrefixComp} (hp : parsePrefixComp b = some (p, rest))
    (hc : Win.Complete p.kind) (hnv : isVerbatimKind p.kind = false) :
    C12c.Base p.raw ∧ comps .windows p.raw = [.pfx p] ∧
    push .windows p.raw [BSLASH] = p.raw ++ [BSLASH] ∧ C12c.Base (p.raw ++ [BSLASH]) ∧
    comps .windows (p.raw ++ [BSLASH]) = [.pfx p, .root] := by
  have hs := Win.stable_of_complete hp hc
  have hp0 := (hs [] (Win.restOK_nil p)).1
  rw [List.append_nil] at hp0
  obtain ⟨e2, hb1, c1⟩ := C12c.push_rooted (r := [BSLASH]) hp0 hc hnv (by decide) (by decide)
  rw [Win.comps_win_root] at c1
  exact ⟨Or.inr ⟨p, [], hp0, hc, hnv⟩, (Win.bare_of_stable hs).2, e2, hb1, c1⟩

theorem portable_of_nameOKs {s : Bytes} (h : nameOKs (wsep true) s) (hcol : ∀ y ∈ s, y ≠ COLON) :
    C16b.portable s :=
  ⟨h.1, h.2.2.1, h.2.2.2, fun y hy => ⟨h.2.1 y hy, hcol y hy⟩⟩

/-- **Windows `normalize` = the lexical fold**, for covered paths with colon-free names. -/
theorem win_normalize_comps (b : Bytes) (hb : C12c.Base b)
    (hnames : ∀ s, Comp.normal s ∈ comps .windows b → ∀ y ∈ s, y ≠ COLON) :
    comps .windows (normalize .windows b) = normFold [] (comps .windows b) := by
  rcases hb with hpf | ⟨p, rest, hp, hc, hnv⟩
  · -- as for Unix: the fold only drops components, and what is left of a parsed list renders faithfully
    have hP : Parsed (wsep true) (comps .windows b) :=
      C16.win_comps_pf b hpf ▸ compsT_parsed (WFToks_toks (wsep true) b)
    have hsub := normFold_sublist (comps .windows b) []
    exact (C16b.win_render_parsed _ (hP.sublist hsub) fun s hs =>
      portable_of_nameOKs (hP.nameOK (hsub.subset hs)) (hnames s (hsub.subset hs))).1
  · obtain ⟨hb0, c0, e2, hb1, c1⟩ := push_prefix hp hc hnv
    have hP := compsT_parsed (WFToks_toks (wsep true) rest)
    have hroot : (∀ d, p.kind ≠ .disk d) → _ := fun hnd =>
      Win.compsT_of_headOK false (Win.headOK_of_not_disk hp hc hnv hnd)
    unfold normalize
    rw [Win.comps_prefixed hp hc hnv] at hnames ⊢
    rw [normFold_nil_cons (c := .pfx p) ⟨nofun, nofun⟩ rfl]
    generalize compsT false true (toks (wsep true) rest) = T at hP hnames hroot
    -- what the fold keeps of `.`, `..` and names are names; they are pushed onto a buffer that shows its root
    have names : ∀ {T' : List Comp}, (∀ x ∈ T', x = .cur ∨ tailOKs (wsep true) x) → (∀ x ∈ T', x ∈ T) →
        ∀ c ∈ normFold [] T', ∃ s, c = .normal s ∧ C16b.portable s := by
      intro T' hT' hsub c hc
      obtain ⟨hm, h1, h2⟩ := normFold_mem hc
      obtain ⟨s, rfl, hs⟩ := ((hT' c hm).resolve_left h1).resolve_left h2
      exact ⟨s, rfl, portable_of_nameOKs hs (hnames s (List.mem_cons_of_mem _ (hsub _ hm)))⟩
    cases T with
    | nil => exact (congrArg (comps .windows) (C08.win_push_empty_base p.raw)).trans c0
    | cons c T' =>
      rcases hP.1 with rfl | hc1
      · -- a root after the prefix stays; the names follow it
        rw [normFold_nil_cons (c := .root) ⟨nofun, nofun⟩ rfl]
        show comps .windows (pushAll .windows (push .windows (push .windows [] p.raw) [BSLASH]) _) = _
        rw [C08.win_push_empty_base, e2, pushAll_names _
          (names (fun x hx => .inr (hP.2 x hx)) fun x hx => List.mem_cons_of_mem _ hx) _ hb1 (by rw [c1]; rfl), c1]
        rfl
      · -- no root: the prefix is a disk (after any other comes nothing or a separator, i.e. a root)
        have hall : ∀ x ∈ c :: T', x = .cur ∨ tailOKs (wsep true) x := fun x hx =>
          (List.mem_cons.mp hx).elim (fun e => e ▸ hc1) fun hx => .inr (hP.2 x hx)
        show comps .windows (pushAll .windows (push .windows [] p.raw) _) = _
        rw [C08.win_push_empty_base, pushAll_names _ (names hall fun _ hx => hx) _ hb0 ?_, c0]
        · rfl
        · by_cases hd : ∃ d, p.kind = .disk d
          · obtain ⟨d, hd⟩ := hd
            simp [c0, C12c.shown, hd]
          · rcases hroot fun d h => hd ⟨d, h⟩ with h | ⟨_, h⟩
            · cases h
            · cases h
              exact absurd rfl (hc1.resolve_left Comp.noConfusion).ne_root

theorem win_normalize_no_dots (b : Bytes) (hb : C12c.Base b)
    (hnames : ∀ s, Comp.normal s ∈ comps .windows b → ∀ y ∈ s, y ≠ COLON) :
    ∀ c ∈ comps .windows (normalize .windows b), c ≠ .cur ∧ c ≠ .parent :=
  normalize_no_dots_of_render .windows b (win_normalize_comps b hb hnames)

theorem win_normalize_idempotent (b : Bytes) (hb : C12c.Base b)
    (hnames : ∀ s, Comp.normal s ∈ comps .windows b → ∀ y ∈ s, y ≠ COLON) :
    normalize .windows (normalize .windows b) = normalize .windows b :=
  normalize_idem_of_render .windows b (win_normalize_comps b hb hnames)

/-- prefix and root are kept -/
theorem win_normalize_keeps_head (b : Bytes) (hb : C12c.Base b)
    (hnames : ∀ s, Comp.normal s ∈ comps .windows b → ∀ y ∈ s, y ≠ COLON) (c : Comp) (rest : List Comp)
    (hcb : comps .windows b = c :: rest) (hc : c = .root ∨ ∃ p, c = .pfx p) :
    (comps .windows (normalize .windows b)).head? = some c := by
  rw [win_normalize_comps b hb hnames, hcb]
  -- the bottom of the stack is never popped: it is not a normal component
  rcases hc with rfl | ⟨p, rfl⟩ <;> exact normFold_head rfl rest []

-- `C:\a\..\.\b` ↦ `C:\b`; `\\s\h\..\x` ↦ `\\s\h\x`: `..` does not pop the root

example : normalize .windows [67, 58, 92, 97, 92, 46, 46, 92, 46, 92, 98] = [67, 58, 92, 98] := by
  unfold normalize; rw [C03.comps_new_closed]; decide +kernel
example : normalize .windows [92, 92, 115, 92, 104, 92, 46, 46, 92, 120] = [92, 92, 115, 92, 104, 92, 120] := by
  unfold normalize; rw [C03.comps_new_closed]; decide +kernel

end TP.C11b
