/-
Props/C10.lean — Prefix and suffix relations are consistent with equality and joining.

Unix in full.  Windows: `starts_with` / `ends_with` / `strip_prefix` compare a prefix component
by its *spelling* (known finding K2, `win_starts_with_K2_witness`) and a remainder that begins
with two separators re-parses as a UNC prefix (K3), so the clauses are false as stated;
Props/C10b, C10c and C10d prove them for the classes of paths that exclude K2 and K3.
-/
import TypedPathVerif.Props.C05
import TypedPathVerif.Lemmas.Canon
import TypedPathVerif.Lemmas.Render

namespace TP.C10

theorem unix_starts_with_iff (p q : Bytes) :
    startsWithP .unix p q = true ↔ comps .unix q <+: comps .unix p :=
  starts_with_iff_of_canon (unix_comps_canon p) (unix_comps_canon q)

/-- a Unix path has no prefix, the one component that `==` does not compare as it stands -/
theorem unix_eq_iff_comps (a b : Bytes) : pathEq .unix a b = true ↔ comps .unix a = comps .unix b := by
  rw [C05.eq_iff_comps, C05.norm_id_of_noPfx (fun c hc => (unix_comps_canon a c hc).noPfx),
    C05.norm_id_of_noPfx (fun c hc => (unix_comps_canon b c hc).noPfx)]

theorem unix_starts_with_of_eq (p q : Bytes) (h : pathEq .unix p q = true) : startsWithP .unix p q = true := by
  rw [unix_starts_with_iff, (unix_eq_iff_comps p q).mp h]
  exact List.prefix_refl _

theorem unix_ends_with_iff (p q : Bytes) :
    endsWithP .unix p q = true ↔ comps .unix q <:+ comps .unix p :=
  ends_with_iff_of_canon (unix_comps_canon p) (unix_comps_canon q)

theorem unix_strip_iff_starts (p q : Bytes) :
    (stripPrefix .unix p q).isSome = startsWithP .unix p q :=
  stripPrefix_isSome .unix p q

theorem unix_strip_comps (p q r : Bytes) (h : stripPrefix .unix p q = some r) :
    comps .unix p = comps .unix q ++ comps .unix r := by
  obtain ⟨s', xs, hr', hpre, rfl, hmap, hp⟩ := strip_reach (reach_new_unix p) h
  -- what was walked over has the base's texts, so it is the base's components
  rw [unix_reparse hr' (hpre (.inr rfl)), hp, map_bytes_inj_of_canon
    (fun x hx => unix_comps_canon p x (hp ▸ List.mem_append_left _ hx)) (unix_comps_canon q) hmap]

/-- `strip_prefix` returns a remainder `r` such that the base joined with `r` equals the path. -/
theorem unix_strip_join (p q r : Bytes) (h : stripPrefix .unix p q = some r) :
    pathEq .unix (push .unix q r) p = true := by
  have hc := unix_strip_comps p q r h
  rw [unix_eq_iff_comps, hc]
  by_cases hq : q = []
  · subst hq
    rw [show push .unix [] r = r from unixPush_nil_left r, unix_comps_nil]
    rfl
  · -- the remainder follows at least one component: it consists of `..` and names
    have hp := unix_comps_parsed p
    rw [hc] at hp
    refine unix_push_tail q r (hp.append_right ?_)
    rwa [unix_comps_eq, ne_eq, compsT_true_eq_nil, toks_eq_nil_iff]

/-- For a relative `b` and a non-empty `a`: `a` joined with `b` starts with `a`, and stripping
`a` from it yields `b`'s components minus a leading `.` (which no longer starts the path). -/
theorem unix_join_starts_strip (a b : Bytes) (ha : a ≠ []) (hb : b ≠ []) (hrel : isAbsolute .unix b = false) :
    startsWithP .unix (push .unix a b) a = true ∧
    ∃ r, stripPrefix .unix (push .unix a b) a = some r ∧ comps .unix r = dropLeadingCur (comps .unix b) := by
  have hj : comps .unix (push .unix a b) = comps .unix a ++ dropLeadingCur (comps .unix b) :=
    unix_push_comps a b hrel ha
  have hs : startsWithP .unix (push .unix a b) a = true := by
    rw [unix_starts_with_iff, hj]; exact List.prefix_append _ _
  refine ⟨hs, ?_⟩
  obtain ⟨r, hst⟩ := stripPrefix_of_starts hs
  refine ⟨r, hst, ?_⟩
  have := unix_strip_comps _ _ _ hst
  rw [hj] at this
  exact (List.append_cancel_left this).symm

/-- K2 witness: `c:\a` and `C:\a` are equal, yet `c:\a` does not start with `C:\` — the
prefix component is compared by its spelling. -/
theorem win_starts_with_K2_witness :
    pathEq .windows [99, 58, 92, 97] [67, 58, 92, 97] = true ∧
    startsWithP .windows [99, 58, 92, 97] [67, 58, 92] = false ∧
    startsWithP .windows [67, 58, 92, 97] [67, 58, 92] = true := by
  refine ⟨?_, ?_, ?_⟩
  · unfold pathEq; rw [C03.comps_new_closed, C03.comps_new_closed]; decide +kernel
  · unfold startsWithP; rw [C03.comps_new_closed]; decide +kernel
  · unfold startsWithP; rw [C03.comps_new_closed]; decide +kernel

example : stripPrefix .unix [47, 97, 47, 46, 47, 98, 47, 47, 99] [47, 97, 47, 98] = some [99] := by
  unfold stripPrefix; rw [C03.comps_new_closed]; decide +kernel
example : startsWithP .unix [47, 97, 47, 98] [47, 98] = false := by
  unfold startsWithP; rw [C03.comps_new_closed]; decide +kernel

end TP.C10
