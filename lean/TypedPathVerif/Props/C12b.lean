/-
Props/C12b.lean — the replacement clause of C12 and the re-parse clause of C13, for Unix.

Both come down to `comps result = cs ++ [.normal n]` (then `fileName_parent_of_comps`): for
`set_file_name` by `unix_push_bytes_tail` (Lemmas/Render: pushing one good component appends it),
for `set_extension` by `C13.set_ext_compsT`.
-/
import TypedPathVerif.Props.C11
import TypedPathVerif.Props.C13

namespace TP.C12b

theorem fileName_parent_of_comps (b : Bytes) (cs : List Comp) (n : Bytes) (h : comps .unix b = cs ++ [.normal n]) :
    fileName .unix b = some n ∧ ∃ q, parent .unix b = some q ∧ comps .unix q = cs :=
  C12.fileName_parent_of_comps (C09.unix_parent_comps b) h

/-- Unix: replacing the file name by a single good name `n` yields a path whose file name is `n`
and whose parent has the old parent's components; with no file name the result is the old path
joined with `n`. -/
theorem unix_with_file_name (b n : Bytes) (hn : C11.nameOK n) :
    (∀ f, fileName .unix b = some f →
      fileName .unix (setFileName .unix b n) = some n ∧
      ∃ q q', parent .unix b = some q ∧ parent .unix (setFileName .unix b n) = some q' ∧
        comps .unix q' = comps .unix q) ∧
    (fileName .unix b = none → setFileName .unix b n = push .unix b n) := by
  refine ⟨fun f hf => ?_, C12.setFileName_of_none⟩
  obtain ⟨q, hq⟩ := C12.parent_of_fileName hf
  rw [C12.setFileName_of_fileName n hf hq]
  have hres : comps .unix (push .unix q n) = comps .unix q ++ [.normal n] :=
    unix_push_bytes_tail q (c := .normal n) (Or.inr ⟨n, rfl, hn⟩)
  obtain ⟨h1, q', hq', hcq'⟩ := fileName_parent_of_comps _ _ n hres
  exact ⟨h1, q, q', hq, hq', hcq'⟩

/-- Unix: after `set_extension x` (with `x` separator-free) the path's components are the old
ones with the file name replaced by stem[.x] — same parent, new file name — provided stem[.x]
is a name at all (it is not when the stem is `.` or `..` and `x` is empty: std has the same
corner). -/
theorem unix_set_ext_comps (b x f : Bytes) (h : fileName .unix b = some f)
    (hx : ∀ y ∈ x, usep y = false) :
    ∃ st, fileStem .unix b = some st ∧
      let newName := st ++ (if x = [] then [] else DOT :: x)
      (newName ≠ CUR → newName ≠ PAR →
        comps .unix (setExtension .unix b x).1 = (comps .unix b).dropLast ++ [.normal newName]) := by
  obtain ⟨C, t, L, _, _, hres, hold, hcomps⟩ := C13.set_ext_compsT .unix b x f usep b rfl h (by decide) hx
  refine ⟨C13.stemOf f, C13.fileStem_of_fileName h, fun hc hp => ?_⟩
  rw [hres, unix_comps_eq, unix_comps_eq b, show compsT false true (toks usep b) = _ from hold,
    List.dropLast_concat]
  exact hcomps hc hp

theorem unix_set_ext_name_parent (b x f : Bytes) (h : fileName .unix b = some f)
    (hx : ∀ y ∈ x, usep y = false) :
    ∃ st, fileStem .unix b = some st ∧
      let newName := st ++ (if x = [] then [] else DOT :: x)
      (newName ≠ CUR → newName ≠ PAR →
        fileName .unix (setExtension .unix b x).1 = some newName ∧
        ∃ q q', parent .unix b = some q ∧ parent .unix (setExtension .unix b x).1 = some q' ∧
          comps .unix q' = comps .unix q) := by
  obtain ⟨st, hst, hmain⟩ := unix_set_ext_comps b x f h hx
  refine ⟨st, hst, ?_⟩
  intro newName hc hp
  have hcomps := hmain hc hp
  obtain ⟨cs, hcb⟩ := List.getLast?_eq_some_iff.mp ((C12.file_name_iff_last_normal .unix b f).mp h)
  rw [hcb, List.dropLast_concat] at hcomps
  obtain ⟨_, q, hq, hcq⟩ := fileName_parent_of_comps b cs f hcb
  obtain ⟨h1, q', hq', hcq'⟩ := fileName_parent_of_comps _ _ newName hcomps
  exact ⟨h1, q, q', hq, hq', by rw [hcq', hcq]⟩

example : setFileName .unix [47, 97, 47, 98] [99] = [47, 97, 47, 99] := by decide +kernel
example : (setExtension .unix [47, 97, 46, 98, 47, 47] [99]).1 = [47, 97, 46, 99] := by decide +kernel

end TP.C12b
