/-
Props/C09b.lean — C09 continued: the Windows re-parse clause, and `ancestors`.

The parent is strictly shorter than the path (`parent_shorter`), so the fuel `len + 1` of `ancestorsAux` never runs
out and `ancestors` is the chain of successive parents up to the first path without one (`ancestors_chain`; both
encodings, all inputs).  Each step of the chain drops the last component (`C09.unix_parent_comps`,
`win_parent_comps`), so every ancestor's components are an initial segment of the path's (`*_ancestors_comps`):
what holds of a path and is handed down by `parent` holds of every ancestor (`ancestorsAux_ind`).
-/
import TypedPathVerif.Lemmas.WinReparse
import TypedPathVerif.Props.C09

namespace TP.C09b

/-- Windows, covered paths (`Win.WF`: no prefix-like start, or a complete prefix of any of the six kinds): the
parent, re-parsed from its own bytes, has the path's components without the last one, and is again covered. -/
theorem win_parent_comps (b q : Bytes) (hwf : Win.WF b) (h : parent .windows b = some q) :
    comps .windows q = (comps .windows b).dropLast ∧ Win.WF q := Win.win_parent_comps b q hwf h

/-- three covered paths (non-vacuity of `Win.WF`): `C:\a\b`, `\\s\h\a`, `a\b`; the parent of `\\s\h\a` is `\\s\h\` -/
example : Win.WF [67, 58, 92, 97, 92, 98] := by
  refine Or.inr ⟨⟨[67, 58], .disk 67⟩, [92, 97, 92, 98], by decide +kernel, trivial⟩
example : Win.WF [92, 92, 115, 92, 104, 92, 97] := by
  refine Or.inr ⟨⟨[92, 92, 115, 92, 104], .unc [115] [104]⟩, [92, 97], by decide +kernel, by simp [Win.Complete]⟩
example : Win.WF [97, 92, 98] := Or.inl (by decide +kernel)
example : parent .windows [92, 92, 115, 92, 104, 92, 97] = some [92, 92, 115, 92, 104, 92] := by decide +kernel

theorem parent_shorter (e : Enc) (b q : Bytes) (h : parent e b = some q) : q.length < b.length := by
  obtain ⟨x, hxne, rfl⟩ := C09.parent_proper_prefix e b q h
  have := List.length_pos_iff.mpr hxne
  rw [List.length_append]
  omega

/-- the list is `b`, then the parent of each element, and stops at an element without parent -/
def IsChain (e : Enc) : List Bytes → Prop
  | [] => False
  | [x] => parent e x = none
  | x :: y :: r => parent e x = some y ∧ IsChain e (y :: r)

theorem ancestorsAux_chain (e : Enc) : ∀ (n : Nat) (b : Bytes), b.length < n →
    IsChain e (ancestorsAux e n b) ∧ (ancestorsAux e n b).head? = some b := by
  intro n
  induction n with
  | zero => intro b h; exact absurd h (Nat.not_lt_zero _)
  | succ n ih =>
    intro b h
    simp only [ancestorsAux]
    cases hp : parent e b with
    | none => exact ⟨hp, rfl⟩
    | some q =>
      have hq := parent_shorter e b q hp
      obtain ⟨h1, h2⟩ := ih q (by omega)
      refine ⟨?_, rfl⟩
      simp only
      cases hl : ancestorsAux e n q with
      | nil => rw [hl] at h2; cases h2
      | cons y r =>
        rw [hl] at h1 h2
        simp only [List.head?_cons, Option.some.injEq] at h2
        subst h2
        exact ⟨hp, h1⟩

/-- **`ancestors` is finite and complete**: it starts with the path, each next element is the
parent of the previous one, and it ends at the first path that has no parent — the fuel
(`len + 1`) never runs out, for every byte string in both encodings. -/
theorem ancestors_chain (e : Enc) (b : Bytes) :
    IsChain e (ancestors e b) ∧ (ancestors e b).head? = some b :=
  ancestorsAux_chain e (b.length + 1) b (Nat.lt_succ_self _)

/-- What holds of a path itself and is inherited along `parent` holds of all its ancestors, whatever the fuel. -/
theorem ancestorsAux_ind (e : Enc) {Q : Bytes → Bytes → Prop} (refl : ∀ b, Q b b)
    (step : ∀ b y q, parent e b = some y → Q y q → Q b q) :
    ∀ (n : Nat) (b : Bytes), ∀ q ∈ ancestorsAux e n b, Q b q
  | 0, b, q, hq => List.mem_singleton.mp hq ▸ refl b
  | n + 1, b, q, hq => by
    simp only [ancestorsAux] at hq
    cases hp : parent e b with
    | none =>
      rw [hp] at hq
      exact List.mem_singleton.mp hq ▸ refl b
    | some y =>
      rw [hp] at hq
      rcases List.mem_cons.mp hq with rfl | hq
      · exact refl _
      · exact step b y q hp (ancestorsAux_ind e refl step n y q hq)

theorem ancestors_tail_parents (e : Enc) (b : Bytes) : ∀ q ∈ (ancestors e b).tail, ∃ p, parent e p = some q := by
  intro q hq
  simp only [ancestors, ancestorsAux] at hq
  cases hp : parent e b with
  | none =>
    rw [hp] at hq
    cases hq
  | some y =>
    rw [hp] at hq
    -- an ancestor of the parent `y` is `y` itself or a parent in turn
    exact ancestorsAux_ind e (Q := fun b q => ∀ p, parent e p = some b → ∃ p', parent e p' = some q)
      (fun _ p hp => ⟨p, hp⟩) (fun b _ _ hp ih _ _ => ih b hp) _ y q hq b hp

/-- `P` is the invariant under which a parent re-parses (`True` on Unix, `Win.WF` on Windows) and `step` the fact
for one parent. -/
theorem ancestors_comps (e : Enc) (P : Bytes → Prop)
    (step : ∀ b y, P b → parent e b = some y → comps e y = (comps e b).dropLast ∧ P y)
    (b : Bytes) (hb : P b) :
    ∀ q ∈ ancestors e b, P q ∧ ∃ k, comps e q = (comps e b).take k := fun q hq =>
  ancestorsAux_ind e (Q := fun b q => P b → P q ∧ ∃ k, comps e q = (comps e b).take k)
    (fun b hb => ⟨hb, _, List.take_length.symm⟩)
    (fun b y q hp ih hb => by
      obtain ⟨hc, hy⟩ := step b y hb hp
      obtain ⟨hq, k, hk⟩ := ih hy
      exact ⟨hq, min k ((comps e b).length - 1), by rw [hk, hc, List.dropLast_eq_take, List.take_take]⟩)
    _ b q hq hb

theorem win_ancestors_comps (b : Bytes) (hwf : Win.WF b) :
    ∀ q ∈ ancestors .windows b, Win.WF q ∧ ∃ k, comps .windows q = (comps .windows b).take k :=
  ancestors_comps .windows Win.WF win_parent_comps b hwf

theorem unix_ancestors_comps (b : Bytes) :
    ∀ q ∈ ancestors .unix b, ∃ k, comps .unix q = (comps .unix b).take k := fun q hq =>
  (ancestors_comps .unix (fun _ => True) (fun b y _ hp => ⟨C09.unix_parent_comps b y hp, trivial⟩)
    b trivial q hq).2

example : ancestors .windows [67, 58, 92, 97, 92, 98] = [[67, 58, 92, 97, 92, 98], [67, 58, 92, 97], [67, 58, 92]] := by decide +kernel

end TP.C09b
