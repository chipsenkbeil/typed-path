/-
Props/C17.lean — The validity predicate matches the documented forbidden-byte sets.

`Generated/Constants.lean` holds the four tables as they are in the crate's source *now*
(gen/constants.py regenerates it on every run), so a changed table breaks `*_forbidden_eq` in the
kernel.
-/
import TypedPathVerif.Props.C04

namespace TP.C17

/-- the documented sets: `/` and NUL on Unix -/
def unixDoc : List UInt8 := [47, 0]
/-- `\ / : ? * " > < |` and NUL on Windows -/
def windowsDoc : List UInt8 := [92, 47, 58, 63, 42, 34, 62, 60, 124, 0]

def docSet : Enc → List UInt8
  | .unix => unixDoc
  | .windows => windowsDoc

def sameSet (a b : List UInt8) : Bool := a.all (fun x => b.contains x) && b.all (fun x => a.contains x)

theorem sameSet_mem {a b : List UInt8} (h : sameSet a b = true) (x : UInt8) : x ∈ a ↔ x ∈ b := by
  simp only [sameSet, Bool.and_eq_true, List.all_eq_true, List.contains_iff_mem] at h
  exact ⟨fun hx => h.1 x hx, fun hx => h.2 x hx⟩

/-- the byte table in the source is the documented Unix set -/
theorem unix_forbidden_eq : sameSet Generated.unixDisallowedBytes unixDoc = true := by decide +kernel

/-- the byte table in the source is the documented Windows set -/
theorem windows_forbidden_eq : sameSet Generated.windowsDisallowedBytes windowsDoc = true := by decide +kernel

/-- the `char` tables (used by the UTF-8 types) hold the same code points as the byte tables -/
theorem char_tables_eq :
    Generated.unixDisallowedChars.map UInt8.ofNat = Generated.unixDisallowedBytes ∧
    Generated.windowsDisallowedChars.map UInt8.ofNat = Generated.windowsDisallowedBytes ∧
    Generated.unixDisallowedChars.all (· < 128) = true ∧
    Generated.windowsDisallowedChars.all (· < 128) = true := by decide +kernel

/-- the separators and dot constants the model hard-codes are the ones in the source -/
theorem constants_eq :
    Generated.unixSeparator = SLASH ∧ Generated.windowsSeparator = BSLASH ∧
    Generated.windowsAltSeparator = SLASH ∧
    Generated.unixCurrentDir = CUR ∧ Generated.unixParentDir = PAR ∧
    Generated.windowsCurrentDir = CUR ∧ Generated.windowsParentDir = PAR := by decide +kernel

theorem forbidden_mem (e : Enc) (x : UInt8) : x ∈ forbidden e ↔ x ∈ docSet e := by
  cases e with
  | unix => exact sameSet_mem unix_forbidden_eq x
  | windows => exact sameSet_mem windows_forbidden_eq x

def clean (e : Enc) (s : Bytes) : Prop := ∀ x ∈ s, x ∉ docSet e

theorem any_forbidden_iff (e : Enc) (s : Bytes) :
    s.any (fun b => (forbidden e).contains b) = false ↔ clean e s := by
  unfold clean
  rw [Bool.eq_false_iff]
  simp only [ne_eq, List.any_eq_true, List.contains_iff_mem, not_exists, not_and]
  constructor
  · intro h x hx hd; exact h x hx ((forbidden_mem e x).mpr hd)
  · intro h x hx hf; exact h x hx ((forbidden_mem e x).mp hf)

/-- Per-component predicate: only a normal component can be invalid, and it is valid exactly
when its name is clean; prefixes, roots, `.` and `..` are always valid. -/
theorem comp_valid_iff (e : Enc) (c : Comp) :
    c.isValid e = true ↔ ∀ s, c = .normal s → clean e s := by
  cases c with
  | normal s =>
    simp only [Comp.isValid, Bool.not_eq_true', any_forbidden_iff, Comp.normal.injEq]
    exact ⟨fun h s' hs => hs ▸ h, fun h => h s rfl⟩
  | _ => simp [Comp.isValid]

/-- Per-path predicate: a path is valid exactly when none of its normal components contains a
forbidden byte. -/
theorem path_valid_iff (e : Enc) (b : Bytes) :
    isValid e b = true ↔ ∀ s, Comp.normal s ∈ comps e b → clean e s := by
  unfold isValid
  rw [List.all_eq_true]
  constructor
  · intro h s hs
    exact (comp_valid_iff e _).mp (h _ hs) s rfl
  · intro h c hc
    rw [comp_valid_iff]
    intro s hs
    subst hs
    exact h s hc

/-- The `InvalidFilename` verdict of the checked operations agrees with the predicate: it is
returned only when some normal component is invalid, and never for a list of valid components. -/
theorem invalid_verdict_sound (e : Enc) : ∀ (cs : List Comp) (n : Nat),
    checkedScan e n cs = some .invalidFilename → ∃ c ∈ cs, c.isValid e = false := by
  intro cs n h
  obtain ⟨pre, c, post, rfl, -, -, hv⟩ := C04.scan_error_first e cs n _ h
  exact ⟨c, List.mem_append_right _ (List.mem_cons_self ..), hv⟩

theorem valid_agrees_checked (e : Enc) (cur p : Bytes) (h : isValid e p = true) :
    pushChecked e cur p ≠ .error .invalidFilename := by
  intro herr
  obtain ⟨pre, c, post, hc, -, -, hv⟩ := C04.checked_error_first e cur p _ herr
  have hc' : c ∈ comps e p := hc ▸ List.mem_append_right _ (List.mem_cons_self ..)
  rw [List.all_eq_true.mp h c hc'] at hv
  cases hv

/-- a list with an invalid name is never accepted: the scan reports an error (of the kind of the
first offending component, `C04.scan_error_first`) -/
theorem invalid_verdict_complete (e : Enc) : ∀ (cs : List Comp) (n : Nat),
    (∃ c ∈ cs, c.isValid e = false) → (checkedScan e n cs).isSome = true := by
  intro cs n ⟨c, hc, hv⟩
  cases hs : checkedScan e n cs with
  | some _ => rfl
  | none =>
    rw [(((C04.scan_none_iff e cs n).mp hs).1 c hc).2.2] at hv
    cases hv

example : isValid .windows [67, 58, 92, 97, 124, 98] = false := by
  unfold isValid; rw [C03.comps_new_closed]; decide +kernel
example : isValid .unix [97, 124, 98] = true := by
  unfold isValid; rw [C03.comps_new_closed]; decide +kernel
example : clean .windows [97, 98] := by unfold clean docSet windowsDoc; decide +kernel

end TP.C17
