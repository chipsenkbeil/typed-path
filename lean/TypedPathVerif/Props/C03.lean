/-
Props/C03.lean — Component iteration is double-ended-coherent and conserves the input bytes.

Stated for both encodings at once (`e : Enc`), for every byte string `b` and every
sequence of front/back steps.  The iteration clauses are `runSteps_eq_takeSteps` (Lemmas/Laws: under
any step list the parser does what `takeSteps` does on the forward list) at a fresh state, and
counting on `takeSteps`.
-/
import TypedPathVerif.Lemmas.EncNew
import TypedPathVerif.Model.Path

namespace TP.C03

/-- Taking components from the back yields the reverse of taking them from the front. -/
theorem dei_reverse (e : Enc) (b : Bytes) : (e.new b).compsBack = (comps e b).reverse :=
  compsBack_eq_reverse _ (Enc.new_inv e b)

/-- Any interleaving of front and back steps yields every component exactly once and in
order: step by step it returns what taking from the corresponding end of the forward list
returns (`none` once that list is exhausted), and the components still to come are the
untouched middle. -/
theorem dei_interleave (e : Enc) (b : Bytes) (steps : List Bool) :
    (runSteps (e.new b) steps).1 = (takeSteps (comps e b) steps).1 ∧
    (runSteps (e.new b) steps).2.comps = (takeSteps (comps e b) steps).2 :=
  let h := runSteps_eq_takeSteps steps (e.new b) (Enc.new_inv e b)
  ⟨h.1, h.2.1⟩

theorem takeSteps_nil (steps : List Bool) :
    (takeSteps [] steps).1 = steps.map (fun _ => none) ∧ (takeSteps [] steps).2 = [] := by
  induction steps with
  | nil => exact ⟨rfl, rfl⟩
  | cons b bs ih =>
    cases b <;> simp [takeSteps, ih.1, ih.2]

def successes (r : List (Option Comp)) : Nat := (r.filter Option.isSome).length

theorem takeSteps_cons (l : List Comp) (b : Bool) (bs : List Bool) :
    ∃ o l', takeSteps l (b :: bs) = (o :: (takeSteps l' bs).1, (takeSteps l' bs).2) ∧
      (if o.isSome then 1 else 0) + l'.length = l.length := by
  cases b with
  | true =>
    rcases List.eq_nil_or_concat l with rfl | ⟨l', c, rfl⟩
    · exact ⟨none, [], rfl, rfl⟩
    · exact ⟨some c, l', by simp [takeSteps], by simp; omega⟩
  | false =>
    cases l with
    | nil => exact ⟨none, [], rfl, rfl⟩
    | cons c t => exact ⟨some c, t, rfl, by simp; omega⟩

theorem takeSteps_successes (l : List Comp) (steps : List Bool) :
    successes (takeSteps l steps).1 + (takeSteps l steps).2.length = l.length := by
  induction steps generalizing l with
  | nil => simp [takeSteps, successes]
  | cons b bs ih =>
    obtain ⟨o, l', h, hl⟩ := takeSteps_cons l b bs
    rw [h, ← hl, ← ih l']
    cases o <;> simp [successes] <;> omega

theorem takeSteps_length_le (l : List Comp) (steps : List Bool) : (takeSteps l steps).2.length ≤ l.length :=
  Nat.le.intro (Nat.add_comm _ _ ▸ takeSteps_successes l steps)

/-- The iterator is exhausted after finitely many steps: at most `|comps b|` steps succeed,
whatever the interleaving.  (That every later step fails is `dei_stays_exhausted`.) -/
theorem dei_exhaust (e : Enc) (b : Bytes) (steps : List Bool) :
    successes (runSteps (e.new b) steps).1 ≤ (comps e b).length := by
  rw [(dei_interleave e b steps).1]
  have := takeSteps_successes (comps e b) steps
  omega

/-- Exhaustion is permanent: once no component is left every further step, from either end,
returns `none`. -/
theorem dei_stays_exhausted (e : Enc) (b : Bytes) (steps more : List Bool)
    (h : (runSteps (e.new b) steps).2.comps = []) :
    (runSteps (runSteps (e.new b) steps).2 more).1 = more.map (fun _ => none) := by
  have hi := (runSteps_eq_takeSteps steps (e.new b) (Enc.new_inv e b)).2.2
  have := (runSteps_eq_takeSteps more _ hi).1
  rw [this, h]
  exact (takeSteps_nil more).1

def isName (s : Bytes) : Bool := decide (s ≠ CUR) && decide (s ≠ PAR)

def nameToks : List Tok → List Bytes
  | [] => []
  | .sep _ :: r => nameToks r
  | .seg s :: r => if isName s then s :: nameToks r else nameToks r

def names : List Comp → List Bytes
  | [] => []
  | .normal s :: r => s :: names r
  | _ :: r => names r

theorem names_append (a b : List Comp) : names (a ++ b) = names a ++ names b := by
  induction a with
  | nil => rfl
  | cons c a ih => cases c <;> simp [names, ih]

theorem names_segComp_cons (s : Bytes) (r : List Comp) :
    names (segComp true s :: r) = if isName s then s :: names r else names r := by
  unfold segComp isName
  by_cases h1 : s = PAR
  · simp [h1, names]
  · by_cases h2 : s = CUR
    · subst h2
      simp [names, h1]
    · simp [h1, h2, names]

theorem names_body (k : Bool) (ts : List Tok) : names (body k ts) = nameToks ts := by
  induction ts with
  | nil => rfl
  | cons t r ih =>
    cases t with
    | sep b =>
      rw [body_cons_junk r (by rfl)]
      exact ih
    | seg s =>
      cases hj : junk k (.seg s) with
      | true =>
        -- only `.` is skipped, and `.` is no name
        obtain ⟨_, hs⟩ := (junk_iff.mp hj).resolve_left (fun ⟨_, h⟩ => nomatch h)
        cases hs
        rw [body_cons_junk r hj, ih]
        rfl
      | false =>
        rw [body_cons_seg r hj, names_segComp_cons, ih]
        rfl

theorem names_compsT_true (k : Bool) (ts : List Tok) : names (compsT k true ts) = nameToks ts := by
  cases ts with
  | nil => rfl
  | cons t r =>
    rw [compsT_true_cons]
    cases t with
    | sep b => exact names_body k r
    | seg s =>
      show names (segComp true s :: body k r) = _
      rw [names_segComp_cons, names_body]
      rfl

/-- Conservation: the input is the prefix text (if any) followed by the bytes of the tokens, and
the normal components are exactly the segment tokens other than `.` and `..`, in order; so prefix
and names lie in the input in order without overlap, and everything between them is made of
separator tokens and `.` / `..` segments. -/
theorem dei_conservation (e : Enc) (b : Bytes) :
    (e.new b).preBytes ++ untoks (e.new b).toks = b ∧
    names (comps e b) = nameToks (e.new b).toks := by
  constructor
  · exact new_remaining e b
  · have hc := comps_closed (e.new b) (Enc.new_inv e b)
    unfold comps
    rw [hc, Enc.new_atBeg, names_append, names_compsT_true]
    cases (e.new b).pre <;> simp [names]

example : comps .unix [47, 97, 47, 46, 47, 98] = [.root, .normal [97], .normal [98]] := by
  rw [comps_new_closed]; decide +kernel
example : (runSteps (Enc.new .unix [47, 97, 47, 98]) [true, false, true, true]).1 =
    [some (.normal [98]), some .root, some (.normal [97]), none] := by decide +kernel
example : names (comps .windows [67, 58, 92, 97, 47, 46, 46, 92, 98]) = [[97], [98]] := by
  rw [comps_new_closed]; decide +kernel

end TP.C03
