/-
Props/C12c.lean — C12 continued: `with_file_name` / `set_file_name` on WINDOWS paths.

For every well-formed Windows base without a verbatim prefix — no prefix-like start at all, or a
complete disk / device-namespace / UNC prefix — and every portable single name `n`
(non-empty, not `.` / `..`, no separator of either kind, no `:`):

* when the base has a file name: the result's file name is `n`, and the result's parent has the
  components of the old parent (with the implicit root of a bare device-namespace / UNC prefix
  written out: `\\s\h\x` → parent `\\s\h\`);
* when it has none: the result is the base joined with `n`.

Bases with a verbatim prefix (rebuilt from components by `push`) are in Props/C12d; bases that start
like a prefix without forming a complete one (K3) stay with the oracle.

`Base` (these bases) also carries C10b, C10c and C11b, through `push_name` and `push_rooted` (what pushing a name,
or a rooted path, onto one gives), and C13b, through `fileName_parent_of_comps`.
-/
import TypedPathVerif.Lemmas.WinAppend
import TypedPathVerif.Props.C12
import TypedPathVerif.Props.C16b

namespace TP.C12c

open TP.JoinRules

/-- the components with the implicit root of a lone device-namespace / UNC prefix written out -/
def shown : List Comp → List Comp
  | [.pfx p] => (match p.kind with | .disk _ => [.pfx p] | _ => [.pfx p, .root])
  | cs => cs

/-- covered bases without a verbatim prefix: no prefix-like start, or a complete disk / device-namespace / UNC
prefix -/
def Base (b : Bytes) : Prop :=
  C16.pfxStart b = false ∨
  ∃ p rest, parsePrefixComp b = some (p, rest) ∧ Win.Complete p.kind ∧ isVerbatimKind p.kind = false

theorem Base.of_rest {b rest : Bytes} {p : PrefixComp} (hp : parsePrefixComp b = some (p, rest))
    (hc : Win.Complete p.kind) (hnv : isVerbatimKind p.kind = false) {rest' : Bytes} (hok : Win.RestOK p rest') :
    Base (p.raw ++ rest') :=
  Or.inr ⟨p, rest', (Win.stable_of_complete hp hc rest' hok).1, hc, hnv⟩

theorem Base.parent_comps {b q : Bytes} (hb : Base b) (h : parent .windows b = some q) :
    Base q ∧ comps .windows q = (comps .windows b).dropLast := by
  rcases hb with hpf | ⟨p, rest, hp, hc, hnv⟩
  · obtain ⟨h1, h2⟩ := Win.parent_of_pf hpf h
    exact ⟨Or.inl h1, h2⟩
  · obtain ⟨rest', _, rfl, _, hok, hcq⟩ := Win.parent_of_stable hp (Win.stable_of_complete hp hc) h
    exact ⟨Base.of_rest hp hc hnv hok, hcq⟩

theorem Base.parent {b q : Bytes} (hb : Base b) (h : parent .windows b = some q) : Base q :=
  (hb.parent_comps h).1

theorem push_rooted {q rest r : Bytes} {p : PrefixComp} (hp : parsePrefixComp q = some (p, rest))
    (hc : Win.Complete p.kind) (hnv : isVerbatimKind p.kind = false) (hr : C16.pfxStart r = false)
    (hrs : startsWithSep r = true) :
    push .windows q r = p.raw ++ r ∧ Base (p.raw ++ r) ∧
    comps .windows (p.raw ++ r) = .pfx p :: comps .windows r := by
  have hpo := Win.prefixOf_of_comp hp
  have hn := Win.normOf_raw_of_complete hp hc hnv
  have hok : Win.RestOK p r := by
    refine Win.restOK_of_headOK fun _ => ?_
    rw [hn]
    cases r with
    | nil => trivial
    | cons x t => exact hrs
  refine ⟨?_, Base.of_rest hp hc hnv hok, ?_⟩
  · show windowsPush q r = _
    rw [C08.windowsPush_rooted (Win.prefixOf_none_of_pf r hr) ((Win.baseIsVerbatim_of_prefixOf hpo).trans hnv) hrs,
      rawPrefix, hpo]
  · rw [Win.comps_of_stable (Win.stable_of_complete hp hc) r hok, hn, C16.win_comps_pf r hr]
    rfl

theorem shown_cons_cons (c d : Comp) (l : List Comp) : shown (c :: d :: l) = c :: d :: l := by
  unfold shown
  split
  · rename_i heq
    cases heq
  · rfl

theorem shown_comps_pf {q : Bytes} (hpf : C16.pfxStart q = false) :
    shown (comps .windows q) = comps .windows q := by
  rw [C16.win_comps_pf q hpf]
  unfold shown
  split
  · rename_i p heq
    cases (compsT_parsed (WFToks_toks (wsep true) q)).noPfx (.pfx p) (heq ▸ List.mem_singleton_self _)
  · rfl

/-- `shown`, because a lone device-namespace / UNC prefix gains its root when a name is pushed: `\\s\h` + `n` =
`\\s\h\n`. -/
theorem push_name (q n : Bytes) (hq : Base q) (hn : C16b.portable n) :
    Base (push .windows q n) ∧ comps .windows (push .windows q n) = shown (comps .windows q) ++ [.normal n] := by
  obtain ⟨hnpf, hnrel⟩ := C16b.portable_pf hn
  have hcn := C16b.win_comps_name hn
  show Base (windowsPush q n) ∧ comps .windows (windowsPush q n) = _
  rcases hq with hpf | ⟨p, rest, hp, hc, hnv⟩
  · by_cases hqe : q = []
    · subst hqe
      rw [show windowsPush [] n = n from C08.win_push_empty_base n, hcn, Win.comps_win_nil]
      exact ⟨Or.inl hnpf, rfl⟩
    · obtain ⟨h1, h2⟩ := C16b.win_push_comps_pf q n hpf hqe hn.1 hnpf hnrel
      rw [h2, hcn, shown_comps_pf hpf]
      exact ⟨Or.inl h1, rfl⟩
  · have hs := Win.stable_of_complete hp hc
    have hnorm := Win.normOf_raw_of_complete hp hc hnv
    have hcq := Win.comps_prefixed hp hc hnv
    by_cases hrest : rest = []
    · -- a lone prefix: the name comes directly after a disk prefix, after the root otherwise
      subst hrest
      obtain ⟨rest', h1, h2, h3⟩ := Win.push_bare hs hnorm hnv
        (Win.endsWithSep_raw_of_complete hp hc hnv) hn.1 hnpf hnrel
      rw [← parsePrefixComp_raw hp, List.append_nil] at hcq ⊢
      rw [h1, h3, hcq, hcn]
      refine ⟨Base.of_rest hp hc hnv h2, ?_⟩
      -- the match of `Win.push_bare` and the match in `shown` branch alike; `toks`: the lone prefix has an empty body
      cases hk : p.kind <;> simp [shown, hk, dropLeadingCur, toks]
    · obtain ⟨h1, h2, h3⟩ := Win.push_prefixed hp hs hnorm hnv hrest hn.1 hnpf hnrel
      rw [h3, hcn, hcq]
      refine ⟨h1 ▸ Base.of_rest hp hc hnv h2, ?_⟩
      cases hl : compsT false true (toks (wsep true) rest) with
      | nil => exact absurd ((toks_eq_nil_iff _ rest).mp (compsT_true_eq_nil.mp hl)) hrest
      | cons c l =>
        rw [shown_cons_cons]
        rfl

theorem fileName_parent_of_comps (b : Bytes) (hb : Base b) (cs : List Comp) (n : Bytes)
    (h : comps .windows b = cs ++ [.normal n]) :
    fileName .windows b = some n ∧ ∃ q, parent .windows b = some q ∧ comps .windows q = cs ∧ Base q := by
  obtain ⟨hfn, q, hq, hcq⟩ := C12.fileName_parent_of_comps (fun q hq => (hb.parent_comps hq).2) h
  exact ⟨hfn, q, hq, hcq, hb.parent hq⟩

/-- **Windows `with_file_name`** on covered bases with a portable name. -/
theorem win_with_file_name (b n : Bytes) (hb : Base b) (hn : C16b.portable n) :
    (∀ f, fileName .windows b = some f →
      fileName .windows (setFileName .windows b n) = some n ∧
      ∃ q q', parent .windows b = some q ∧ parent .windows (setFileName .windows b n) = some q' ∧
        comps .windows q' = shown (comps .windows q)) ∧
    (fileName .windows b = none → setFileName .windows b n = push .windows b n) := by
  refine ⟨fun f hf => ?_, C12.setFileName_of_none⟩
  obtain ⟨q, hq⟩ := C12.parent_of_fileName hf
  rw [C12.setFileName_of_fileName n hf hq]
  obtain ⟨hbr, hres⟩ := push_name q n (hb.parent hq) hn
  obtain ⟨h1, q', hq', hcq', _⟩ := fileName_parent_of_comps _ hbr _ n hres
  exact ⟨h1, q, q', hq, hq', hcq'⟩

-- `C:\a\b` ↦ `C:\a\n`; `\\s\h\x` ↦ `\\s\h\n`

example : Base [67, 58, 92, 97, 92, 98] := Or.inr ⟨⟨[67, 58], .disk 67⟩, [92, 97, 92, 98], by decide +kernel, trivial, rfl⟩
example : setFileName .windows [67, 58, 92, 97, 92, 98] [110] = [67, 58, 92, 97, 92, 110] := by
  unfold setFileName fileName pop parent; decide +kernel
example : setFileName .windows [92, 92, 115, 92, 104, 92, 120] [110] = [92, 92, 115, 92, 104, 92, 110] := by
  unfold setFileName fileName pop parent; decide +kernel

end TP.C12c
