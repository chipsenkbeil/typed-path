/-
Props/C14.lean — UTF-8 path types are faithful, panic-free views of the byte path types.

What a theorem can carry here is the invariant the `from_utf8_unchecked` / `as_mut_vec` code of
the UTF-8 wrappers relies on: **every byte string the byte-level operations hand out, and every
buffer after any mutation, is valid UTF-8 whenever the inputs are** (equivalently: every cut is
on a character boundary).  Proved for the model, both encodings.  That each of the ~40 UTF-8
wrapper methods calls the right byte method is decided by the correspondence (UTF-8 family vs
byte family transcripts), not by a theorem.
-/
import TypedPathVerif.Lemmas.Utf8
import TypedPathVerif.Props.C13
import TypedPathVerif.Props.C08
import TypedPathVerif.Props.C04
import TypedPathVerif.Lemmas.IterAfter
import TypedPathVerif.Lemmas.ConvStep
import TypedPathVerif.Lemmas.NormFold
import TypedPathVerif.Generated.Api

namespace TP.C14

open Utf8

theorem usep_ascii : asciiSeps usep := by
  intro x hx
  have : x = SLASH := by simpa [usep] using hx
  subst this; decide

theorem wsep_ascii (norm : Bool) : asciiSeps (wsep norm) := by
  intro x hx
  simp only [wsep, Bool.or_eq_true, decide_eq_true_eq, Bool.and_eq_true] at hx
  rcases hx with h | ⟨_, h⟩ <;> (subst h; decide)

/-- the prefix text and the rest of a valid path are both valid: the prefix text ends with the `:` of a
drive, or what follows it is the end or a separator (`Win.Shape.cut`); either way the cut is next to
an ASCII byte -/
theorem prefix_split_valid {b rest : Bytes} {p : PrefixComp} (h : parsePrefixComp b = some (p, rest))
    (hv : Valid b) : Valid p.raw ∧ Valid rest := by
  obtain ⟨rfl, hs⟩ := Win.parsePrefixComp_iff.mp h
  rcases hs.cut with hr | ⟨a, ha⟩
  · refine Valid.split_at hv ?_
    cases rest with
    | nil => exact .inl rfl
    | cons x t => exact .inr ⟨x, t, rfl, wsep_ascii true x hr⟩
  · rw [ha, List.append_assoc] at hv
    obtain ⟨h1, h2, h3⟩ := Valid.split_ascii (by decide : isAscii COLON = true) hv
    rw [ha]
    exact ⟨Valid.append h1 h2, h3⟩

def StValid (st : PState) : Prop := Valid st.preBytes ∧ ∀ t ∈ st.toks, Valid t.bytes

theorem new_valid (e : Enc) (b : Bytes) (hv : Valid b) : StValid (e.new b) := by
  cases e with
  | unix => exact ⟨.nil, toks_valid usep_ascii hv⟩
  | windows =>
    cases h : parsePrefixComp b with
    | none =>
      rw [new_of_no_prefix h]
      exact ⟨.nil, toks_valid (wsep_ascii _) hv⟩
    | some x =>
      rw [new_of_parse h]
      obtain ⟨hp, hr⟩ := prefix_split_valid h hv
      exact ⟨hp, toks_valid (wsep_ascii _) hr⟩

theorem StValid.remaining {st : PState} (h : StValid st) : Valid st.remaining :=
  Valid.append h.1 (untoks_valid _ h.2)

/-- the shape of what a step leaves (`nextFront_toks`, `nextBack_toks`) -/
theorem StValid.of_piece {s s' : PState} (h : StValid s) (hp : s'.pre = s.pre ∨ s'.pre = none)
    (ht : ∀ t ∈ s'.toks, t ∈ s.toks) : StValid s' := by
  refine ⟨?_, fun t hm => h.2 t (ht t hm)⟩
  unfold PState.preBytes
  rcases hp with e | e
  · rw [e]
    exact h.1
  · rw [e]
    exact .nil

theorem StValid.front {s s' : PState} {c : Comp} (h : StValid s) (hf : s.nextFront = some (c, s')) : StValid s' :=
  h.of_piece (.inr (nextFront_toks hf).2.1) fun _ ht => (nextFront_toks hf).2.2.subset ht

theorem StValid.back {s s' : PState} {c : Comp} (h : StValid s) (hb : s.nextBack = some (c, s')) : StValid s' :=
  h.of_piece (nextBack_toks hb).2.2.1 fun _ ht => (nextBack_toks hb).2.2.2.subset ht

/-- **Every interleaving**: after any sequence of front/back steps on a valid path, the
remaining text (`Components::as_str`) is valid UTF-8. -/
theorem remaining_valid (e : Enc) (b : Bytes) (hv : Valid b) (steps : List Bool) :
    Valid (runSteps (e.new b) steps).2.remaining :=
  (runSteps_keeps (P := StValid) (fun hf h => h.front hf) (fun hb h => h.back hb) steps _
    (new_valid e b hv)).remaining

theorem compsT_text {k : Bool} {ts : List Tok} {c : Comp} (h : c ∈ compsT k true ts) :
    c = .root ∨ ∃ s, Tok.seg s ∈ ts ∧ ∀ e, c.bytes e = s :=
  (mem_compsT h).imp_right fun ⟨s, hs, hc⟩ => ⟨s, hs, fun e => hc ▸ bytes_segComp e true s⟩

theorem valid_sep (e : Enc) : Valid [e.sepByte] := by
  cases e <;> exact valid_singleton_ascii _ (by decide)

/-- `e'` is free: `with_encoding` spells the components of one encoding in the other -/
theorem comps_valid (e : Enc) (b : Bytes) (hv : Valid b) (e' : Enc) : ∀ c ∈ comps e b, Valid (c.bytes e') := by
  obtain ⟨hp, ht⟩ := new_valid e b hv
  intro c hc
  rw [comps, comps_eq_closed _ (Enc.new_inv e b), PState.closed] at hc
  rcases List.mem_append.mp hc with hc | hc
  · unfold PState.preBytes at hp
    cases h : (e.new b).pre with
    | none =>
      rw [h] at hc
      cases hc
    | some p =>
      rw [h] at hc hp
      rw [List.mem_singleton.mp hc]
      exact hp
  · rcases compsT_text hc with rfl | ⟨s, hs, he⟩
    · exact valid_sep e'
    · rw [he]
      exact ht _ hs

theorem comps_bytes_valid (e : Enc) (b : Bytes) (hv : Valid b) :
    ∀ c ∈ comps e b, Valid (c.bytes .unix) ∧ Valid (c.bytes .windows) :=
  fun c hc => ⟨comps_valid e b hv .unix c hc, comps_valid e b hv .windows c hc⟩

theorem parent_valid (e : Enc) (b q : Bytes) (hv : Valid b) (h : parent e b = some q) : Valid q := by
  obtain ⟨c, s', hb, _, rfl⟩ := C09.parent_eq_some_iff.mp h
  exact ((new_valid e b hv).back hb).remaining

theorem file_name_valid (e : Enc) (b f : Bytes) (hv : Valid b) (h : fileName e b = some f) : Valid f :=
  comps_valid e b hv e _ (List.mem_of_getLast? ((C12.file_name_iff_last_normal e b f).mp h))

theorem stem_ext_valid (e : Enc) (b : Bytes) (hv : Valid b) :
    (∀ st, fileStem e b = some st → Valid st) ∧ (∀ x, extension e b = some x → Valid x) := by
  cases hf : fileName e b with
  | none => simp [fileStem, extension, hf]
  | some f =>
    have hfv := file_name_valid e b f hv hf
    rcases C12.stem_ext_split e b f hf with ⟨h1, h2, _⟩ | ⟨st, x, h1, h2, h3, _, _, _⟩
    · rw [h1, h2]
      exact ⟨fun _ hst => Option.some.inj hst ▸ hfv, fun _ hx => nomatch hx⟩
    · rw [h1, h2]
      rw [← h3] at hfv
      obtain ⟨hs, _, hx⟩ := Valid.split_ascii (by decide : isAscii DOT = true) hfv
      exact ⟨fun _ hst => Option.some.inj hst ▸ hs, fun _ hx' => Option.some.inj hx' ▸ hx⟩

theorem strip_prefix_valid (e : Enc) (p q r : Bytes) (hv : Valid p) (h : stripPrefix e p q = some r) : Valid r := by
  unfold stripPrefix at h
  cases hia : iterAfter e (e.new p) (comps e q) with
  | none =>
    rw [hia] at h
    cases h
  | some s' =>
    rw [hia] at h
    cases h
    exact (iterAfter_spec e (fun hf hs => StValid.front hs hf) _ _ _ (new_valid e p hv) hia).1.remaining

theorem take_valid_of_prefix {b q r : Bytes} (hb : b = q ++ r) (hq : Valid q) : Valid (b.take q.length) := by
  rw [hb]; simpa using hq

theorem unix_push_valid (cur p : Bytes) (hc : Valid cur) (hp : Valid p) : Valid (unixPush cur p) :=
  .ite hc (.ite hp (.ite ((hc.append (valid_singleton_ascii SLASH (by decide))).append hp) (hc.append hp)))

theorem verbatimRender_valid : ∀ (cs : List Comp) (needSep : Bool), (∀ c ∈ cs, Valid (c.bytes .windows)) →
    Valid (verbatimRender needSep cs) := by
  intro cs
  induction cs with
  | nil => intro _ _; exact Valid.nil
  | cons c cs ih =>
    intro needSep h
    simp only [verbatimRender]
    exact ((Valid.ite (valid_singleton_ascii BSLASH (by decide)) .nil).append (h c (by simp))).append
      (ih _ (fun c' hc' => h c' (by simp [hc'])))

theorem rawPrefix_valid (a : Bytes) (ha : Valid a) : Valid (JoinRules.rawPrefix a) := by
  unfold JoinRules.rawPrefix JoinRules.prefixOf
  cases hp : parsePrefixComp a with
  | none => exact Valid.nil
  | some x =>
    obtain ⟨p, rest⟩ := x
    exact (prefix_split_valid hp ha).1

theorem windows_push_valid (cur p : Bytes) (hc : Valid cur) (hp : Valid p) : Valid (windowsPush cur p) := by
  by_cases hr : JoinRules.rule cur p = .verbatim
  · rw [C08.win_push_verbatim cur p hr]
    apply verbatimRender_valid
    unfold JoinRules.verbatimComps
    exact verbatimFold_all _ _ (comps_valid .windows cur hc .windows)
      (fun c hc' _ => comps_valid .windows p hp .windows c hc')
  · rw [C08.win_push_bytes cur p hr]
    unfold JoinRules.joinBytes
    cases JoinRules.rule cur p with
    | empty => exact hc
    | replace => exact hp
    | rooted => exact Valid.append (rawPrefix_valid cur hc) hp
    | append => exact .ite (hc.append hp) ((hc.append (valid_singleton_ascii BSLASH (by decide))).append hp)
    | verbatim => exact Valid.nil

theorem push_valid (e : Enc) (cur p : Bytes) (hc : Valid cur) (hp : Valid p) : Valid (push e cur p) := by
  cases e with
  | unix => exact unix_push_valid cur p hc hp
  | windows => exact windows_push_valid cur p hc hp

theorem push_checked_valid (e : Enc) (cur p r : Bytes) (hc : Valid cur) (hp : Valid p)
    (h : pushChecked e cur p = .ok r) : Valid r := by
  rw [C04.checked_ok_eq_push e cur p r h]; exact push_valid e cur p hc hp

theorem pop_valid (e : Enc) (b : Bytes) (hv : Valid b) : Valid (pop e b).1 := by
  rw [C09.pop_eq_parent]
  cases hp : parent e b with
  | none => exact hv
  | some q => exact parent_valid e b q hv hp

theorem set_file_name_valid (e : Enc) (b n : Bytes) (hv : Valid b) (hn : Valid n) :
    Valid (setFileName e b n) :=
  push_valid e _ n (.ite (pop_valid e b hv) hv) hn

/-- `set_extension` keeps the buffer valid: the cut is on a character boundary.  (This is the
operation whose UTF-8 copy panicked before the `fix:` commit 9e70681.) -/
theorem set_extension_valid (e : Enc) (b x : Bytes) (hv : Valid b) (hx : Valid x) :
    Valid (setExtension e b x).1 := by
  cases hf : fileName e b with
  | none => rw [C13.set_ext_false e b x hf]; exact hv
  | some f =>
    obtain ⟨r, j, st, hts, _, hstem, hset⟩ := C13.set_ext_tokens e b x f hf
    rw [hset]
    have hnew := new_valid e b hv
    have hr : Valid (untoks r) := untoks_valid r (fun t ht => hnew.2 t (by rw [hts]; simp [ht]))
    have hst : Valid st := (stem_ext_valid e b hv).1 st hstem
    exact ((hnew.1.append hr).append hst).append (.ite .nil (.ascii DOT x (by decide) hx))

theorem pushAll_valid (e : Enc) : ∀ (cs : List Comp) (buf : Bytes), Valid buf → (∀ c ∈ cs, Valid (c.bytes e)) →
    Valid (pushAll e buf cs)
  | [], _, hb, _ => hb
  | c :: cs, buf, hb, h =>
    pushAll_valid e cs _ (push_valid e buf _ hb (h c (List.mem_cons_self ..)))
      (fun c' hc' => h c' (List.mem_cons_of_mem _ hc'))

theorem normalize_valid (e : Enc) (b : Bytes) (hv : Valid b) : Valid (normalize e b) :=
  pushAll_valid e _ [] .nil fun c hc => comps_valid e b hv e c ((normFold_sublist _ []).subset hc)

theorem convFold_valid (t : Enc) : ∀ (cs : List Comp) (buf : Bytes), Valid buf →
    (∀ c ∈ cs, Valid (c.bytes t)) → Valid (convFold t buf cs)
  | [], _, hb, _ => hb
  | c :: cs, buf, hb, h => by
    rw [convFold_cons]
    refine convFold_valid t cs _ ?_ (fun c' hc' => h c' (List.mem_cons_of_mem _ hc'))
    unfold convStep
    cases hpc : convPiece t c with
    | none => exact hb
    | some pc =>
      refine push_valid t buf pc hb ?_
      rcases convPiece_cases hpc with rfl | rfl
      · exact valid_sep t
      · exact h c (List.mem_cons_self ..)

theorem with_encoding_valid (s t : Enc) (b : Bytes) (hv : Valid b) : Valid (withEncoding s t b) :=
  .ite hv (convFold_valid t _ [] .nil (comps_valid s b hv t))

inductive Mut where
  | push (p : Bytes) | pop | setFileName (n : Bytes) | setExtension (x : Bytes) | clear

def Mut.argValid : Mut → Prop
  | .push p => Valid p
  | .setFileName n => Valid n
  | .setExtension x => Valid x
  | _ => True

def applyMut (e : Enc) (b : Bytes) : Mut → Bytes
  | .push p => push e b p
  | .pop => (pop e b).1
  | .setFileName n => setFileName e b n
  | .setExtension x => (setExtension e b x).1
  | .clear => []

/-- **Every mutation history**: starting from a valid buffer and applying any sequence of
push / pop / set_file_name / set_extension / clear with valid arguments, the buffer is valid UTF-8
after every step. -/
theorem mutations_valid (e : Enc) : ∀ (ms : List Mut) (b : Bytes), Valid b → (∀ m ∈ ms, m.argValid) →
    Valid (ms.foldl (applyMut e) b) := by
  intro ms
  induction ms with
  | nil => intro b hb _; exact hb
  | cons m ms ih =>
    intro b hb h
    simp only [List.foldl_cons]
    apply ih _ _ (fun m' hm' => h m' (by simp [hm']))
    have hm := h m (by simp)
    cases m with
    | push p => exact push_valid e b p hb hm
    | pop => exact pop_valid e b hb
    | setFileName n => exact set_file_name_valid e b n hb hm
    | setExtension x => exact set_extension_valid e b x hb hm
    | clear => exact Valid.nil

-- `aé/日` is valid, `a` with the first byte of `é` is not; `aé.é/` + `x` → `aé.x`

example : Valid [97, 0xC3, 0xA9, 47, 0xE6, 0x97, 0xA5] := (validB_iff _).mp (by decide +kernel)
example : ¬ Valid [97, 0xC3] := fun h => by have := (validB_iff _).mpr h; revert this; decide +kernel
example : (setExtension .unix [97, 0xC3, 0xA9, 46, 0xC3, 0xA9, 47] [120]).1 = [97, 0xC3, 0xA9, 46, 120] := by decide +kernel

/-- every public method the `utf8` group of source files declares now is called by the harness
(regenerated table, gen/api.py): a method added without a transcript line breaks this -/
theorem api_exercised_utf8 : Generated.apiUnexercised_utf8 = [] := rfl

end TP.C14
