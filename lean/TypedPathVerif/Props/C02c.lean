/-
Props/C02c.lean — C02, the near-misses: exact conditions for the *incomplete* prefixes.

`Props/C02b` gives exact conditions (iff) for disk, verbatim disk, device
namespace, UNC with a share, verbatim UNC with a share, and verbatim with a name other than `UNC`.
This file adds the remaining results of the prefix parser:

  * `\\?\` followed by a separator            → `Verbatim("")`             (`verbatim_empty_iff`)
  * `\\?\UNC` followed by nothing usable       → `Verbatim("UNC")`          (`verbatim_UNC_name_iff`)
  * `\\server` with no share                   → `UNC(server, "")`          (`unc_noshare_iff`)
  * `\\?\UNC\server` with no share             → `VerbatimUNC(server, "")`  (`verbatim_unc_noshare_iff`)

so that, together, every `some` result of `parsePrefix` is characterised by the shape of the
input (`prefix_result_classified`), and so is `none` (`prefix_none_iff`); and, in namespace `Win`, the one
incomplete shape that is stable.
-/
import TypedPathVerif.Lemmas.WinStable

namespace TP.C02c

open TP.Win

/-- `Verbatim("")`: the separator after the lead-in stays in the rest. -/
theorem verbatim_empty_iff (b rest : Bytes) :
    parsePrefix b = some (.verbatim [], rest) ↔
      ∃ s1 s2 s3 x t, b = s1 :: s2 :: QMARK :: s3 :: x :: t ∧ rest = x :: t ∧
        anySep s1 = true ∧ anySep s2 = true ∧ anySep s3 = true ∧
        wsep (!startsWith [s1, s2, QMARK, s3] VERB) x = true := by
  rw [parsePrefix_iff]
  constructor
  · rintro ⟨_, rfl, h⟩
    cases h with
    | verbatim _ _ _ hf _ _ => exact absurd rfl hf.1
    | verbatimEmpty h1 h2 h3 hx => exact ⟨_, _, _, _, _, rfl, rfl, h1, h2, h3, hx⟩
  · rintro ⟨s1, s2, s3, x, t, rfl, rfl, h1, h2, h3, hx⟩
    exact ⟨[s1, s2, QMARK, s3], rfl, .verbatimEmpty h1 h2 h3 hx⟩

-- `\\?\\a`; `\\?\` and `\\.\` with nothing after them are UNC with server `?` / `.`; `\\?\/a`: `/` is a name byte
-- under the exact marker
example : parsePrefix [92, 92, 63, 92, 92, 97] = some (.verbatim [], [92, 97]) := by decide +kernel
example : parsePrefix [92, 92, 63, 92] = some (.unc [63] [], []) := by decide +kernel
example : parsePrefix [92, 92, 46, 92] = some (.unc [46] [], []) := by decide +kernel
example : parsePrefix [92, 92, 63, 92, 47, 97] = some (.verbatim [47, 97], []) := by decide +kernel

theorem takeUNC_mk (r : Bytes) : takeUNC (85 :: 78 :: 67 :: r) = some r := rfl

/-- `Verbatim("UNC")`: exactly when no server name follows `UNC`. -/
theorem verbatim_UNC_name_iff (b rest : Bytes) :
    parsePrefix b = some (.verbatim UNCNAME, rest) ↔
      ∃ s1 s2 s3, b = s1 :: s2 :: QMARK :: s3 :: 85 :: 78 :: 67 :: rest ∧
        anySep s1 = true ∧ anySep s2 = true ∧ anySep s3 = true ∧
        (rest = [] ∨ ∃ x r', rest = x :: r' ∧ wsep (!startsWith [s1, s2, QMARK, s3] VERB) x = true ∧
          HeadOK (wsep (!startsWith [s1, s2, QMARK, s3] VERB)) r') := by
  rw [parsePrefix_iff]
  constructor
  · rintro ⟨_, rfl, h⟩
    cases h with
    | verbatim h1 h2 h3 hf _ hu =>
      refine ⟨_, _, _, rfl, h1, h2, h3, ?_⟩
      cases rest with
      | nil => exact .inl rfl
      | cons x r => exact .inr ⟨x, r, rfl, hf.2.2, hu rfl x r rfl⟩
  · rintro ⟨s1, s2, s3, rfl, h1, h2, h3, hr⟩
    refine ⟨s1 :: s2 :: QMARK :: s3 :: UNCNAME, rfl, .verbatim h1 h2 h3 ⟨by decide, unc_free _, ?_⟩ rfl ?_⟩
    · rcases hr with rfl | ⟨x, r', rfl, hx, _⟩
      · trivial
      · exact hx
    · rintro _ x r rfl
      rcases hr with hr | ⟨_, _, e, _, hr⟩
      · cases hr
      · cases e
        exact hr

example : parsePrefix [92, 92, 63, 92, 85, 78, 67] = some (.verbatim [85, 78, 67], []) := by decide +kernel
example : parsePrefix [92, 92, 63, 92, 85, 78, 67, 92, 92, 97] = some (.verbatim [85, 78, 67], [92, 92, 97]) := by decide +kernel

/-- `UNC(server, "")`: a separator after the server is consumed.  The server may be `?` only when at most that
one separator follows (otherwise the path is a verbatim one), and `.` under the same condition as any other
name (a device name after `\\.\` makes it a device path). -/
theorem unc_noshare_iff (b rest sv : Bytes) :
    parsePrefix b = some (.unc sv [], rest) ↔
      ∃ s1 s2 tail, b = s1 :: s2 :: (sv ++ tail) ∧ anySep s1 = true ∧ anySep s2 = true ∧
        sv ≠ [] ∧ (∀ y ∈ sv, anySep y = false) ∧ HeadOK anySep tail ∧
        rest = maybeSep true tail ∧ HeadOK anySep rest ∧
        (sv = [QMARK] → tail = [] ∨ ∃ x, tail = [x]) := by
  rw [parsePrefix_iff]
  constructor
  · rintro ⟨_, rfl, h⟩
    cases h with
    | unc h1 h2 hw hq _ =>
      cases hw with
      | share _ hsh => exact absurd rfl hsh.1
      | bare hsv => exact ⟨_, _, [], by simp, h1, h2, hsv.1, hsv.2.1, trivial, rfl, trivial, fun _ => .inl rfl⟩
      | sep hsv hr =>
        rename_i x
        exact ⟨_, _, x :: rest, by simp, h1, h2, hsv.1, hsv.2.1, hsv.2.2, (maybeSep_cons_sep _ hsv.2.2).symm, hr,
          fun e => .inr ⟨x, by rw [(hq e).2]⟩⟩
  · rintro ⟨s1, s2, tail, rfl, h1, h2, hne, hfree, htail, rfl, hrest, hq⟩
    cases tail with
    | nil =>
      exact ⟨s1 :: s2 :: sv, by simp [maybeSep, takeSep], .unc h1 h2 (.bare ⟨hne, hfree, trivial⟩) (fun _ => ⟨rfl, rfl⟩) fun _ => rfl⟩
    | cons x t =>
      have hx : wsep true x = true := htail
      rw [maybeSep_cons_sep t hx] at hrest ⊢
      refine ⟨s1 :: s2 :: (sv ++ [x]), by simp, .unc h1 h2 (.sep ⟨hne, hfree, hx⟩ hrest) (fun e => ⟨rfl, ?_⟩) fun _ => rfl⟩
      rcases hq e with h | ⟨_, h⟩ <;> cases h
      rfl

example : parsePrefix [92, 92, 115] = some (.unc [115] [], []) := by decide +kernel
example : parsePrefix [92, 92, 115, 92, 92, 97] = some (.unc [115] [], [92, 97]) := by decide +kernel
example : parsePrefix [92, 92, 63, 92] = some (.unc [63] [], []) := by decide +kernel

/-- `VerbatimUNC(server, "")`: as `unc_noshare_iff`, the separators after `UNC` being those of the path's
separator set. -/
theorem verbatim_unc_noshare_iff (b rest sv : Bytes) :
    parsePrefix b = some (.verbatimUNC sv [], rest) ↔
      ∃ s1 s2 s3 x0 tail, b = s1 :: s2 :: QMARK :: s3 :: 85 :: 78 :: 67 :: x0 :: (sv ++ tail) ∧
        anySep s1 = true ∧ anySep s2 = true ∧ anySep s3 = true ∧
        wsep (!startsWith [s1, s2, QMARK, s3] VERB) x0 = true ∧
        sv ≠ [] ∧ (∀ y ∈ sv, wsep (!startsWith [s1, s2, QMARK, s3] VERB) y = false) ∧
        HeadOK (wsep (!startsWith [s1, s2, QMARK, s3] VERB)) tail ∧
        rest = maybeSep (!startsWith [s1, s2, QMARK, s3] VERB) tail ∧
        HeadOK (wsep (!startsWith [s1, s2, QMARK, s3] VERB)) rest := by
  rw [parsePrefix_iff]
  constructor
  · rintro ⟨_, rfl, h⟩
    cases h with
    | verbatimUNC h1 h2 h3 hx0 hw =>
      cases hw with
      | share _ hsh => exact absurd rfl hsh.1
      | bare hsv => exact ⟨_, _, _, _, [], by simp, h1, h2, h3, hx0, hsv.1, hsv.2.1, trivial, rfl, trivial⟩
      | sep hsv hr =>
        rename_i x
        exact ⟨_, _, _, _, x :: rest, by simp, h1, h2, h3, hx0, hsv.1, hsv.2.1, hsv.2.2,
          (maybeSep_cons_sep _ hsv.2.2).symm, hr⟩
  · rintro ⟨s1, s2, s3, x0, tail, rfl, h1, h2, h3, hx0, hne, hfree, htail, rfl, hrest⟩
    cases tail with
    | nil =>
      exact ⟨s1 :: s2 :: QMARK :: s3 :: 85 :: 78 :: 67 :: x0 :: sv, by simp [maybeSep, takeSep],
        .verbatimUNC h1 h2 h3 hx0 (.bare ⟨hne, hfree, trivial⟩)⟩
    | cons x t =>
      have hx : wsep _ x = true := htail
      rw [maybeSep_cons_sep t hx] at hrest ⊢
      exact ⟨s1 :: s2 :: QMARK :: s3 :: 85 :: 78 :: 67 :: x0 :: (sv ++ [x]), by simp,
        .verbatimUNC h1 h2 h3 hx0 (.sep ⟨hne, hfree, hx⟩ hrest)⟩

example : parsePrefix [92, 92, 63, 92, 85, 78, 67, 92, 115] = some (.verbatimUNC [115] [], []) := by decide +kernel
example : parsePrefix [92, 92, 63, 92, 85, 78, 67, 92, 115, 92, 92, 97] = some (.verbatimUNC [115] [], [92, 97]) := by decide +kernel

/-- every prefix the parser returns is complete (and then characterised by the `*_iff` theorems
of `Props/C02b`) or one of the four incomplete forms characterised above -/
theorem prefix_result_classified (b rest : Bytes) (k : WPrefix) (h : parsePrefix b = some (k, rest)) :
    Complete k ∨ k = .verbatim [] ∨ k = .verbatim UNCNAME ∨ (∃ sv, k = .unc sv []) ∨ (∃ sv, k = .verbatimUNC sv []) := by
  cases k with
  | verbatim n =>
    by_cases h1 : n = []
    · exact Or.inr (Or.inl (by rw [h1]))
    · by_cases h2 : n = UNCNAME
      · exact Or.inr (Or.inr (Or.inl (by rw [h2])))
      · exact Or.inl ⟨h1, h2⟩
  | verbatimUNC sv sh =>
    by_cases h1 : sh = []
    · exact Or.inr (Or.inr (Or.inr (Or.inr ⟨sv, by rw [h1]⟩)))
    · exact Or.inl h1
  | unc sv sh =>
    by_cases h1 : sh = []
    · exact Or.inr (Or.inr (Or.inr (Or.inl ⟨sv, by rw [h1]⟩)))
    · exact Or.inl h1
  | verbatimDisk d => exact Or.inl trivial
  | deviceNS d => exact Or.inl trivial
  | disk d => exact Or.inl trivial

/-- **The parser finds no prefix exactly when the input neither starts with `letter :` nor with
two separators followed by a non-separator byte.** -/
theorem prefix_none_iff (b : Bytes) :
    parsePrefix b = none ↔
      diskByte b = none ∧ ¬ ∃ s1 s2 c t, b = s1 :: s2 :: c :: t ∧ anySep s1 = true ∧ anySep s2 = true ∧ anySep c = false := by
  constructor
  · intro h
    constructor
    · cases hd : diskByte b with
      | none => rfl
      | some x =>
        obtain ⟨d, rfl, hd, _⟩ := diskByte_iff.mp hd
        cases h.symm.trans (parsePrefix_iff.mpr ⟨[d, COLON], rfl, .disk hd⟩)
    · rintro ⟨s1, s2, c, t, rfl, h1, h2, hc⟩
      exact parsePrefix_ne_none h1 h2 hc h
  · rintro ⟨hd, hno⟩
    refine Option.eq_none_iff_forall_ne_some.mpr fun ⟨k, rest⟩ h => ?_
    obtain ⟨_, rfl, hs⟩ := parsePrefix_iff.mp h
    rcases hs.start with ⟨d, rfl, ha⟩ | ⟨s1, s2, c, t, rfl, hh⟩
    · cases hd.symm.trans (diskByte_iff.mpr ⟨d, rfl, ha, rfl⟩)
    · exact hno ⟨s1, s2, c, t ++ rest, rfl, hh⟩


example : parsePrefix [92, 92] = none ∧ parsePrefix [92, 92, 92, 97] = none ∧ parsePrefix [49, 58] = none := by decide +kernel

end TP.C02c

/-!
## the one *incomplete* prefix shape that is nevertheless stable

`Win.Complete` (Lemmas/WinStable.lean) leaves out the prefixes with an empty share, because
`\\server` + `\x` re-parses with share `x`.  But when the separator after the server is already there —
`\\?\UNC\server\`, raw text of length 8 + |server| + 1 — the parser has consumed it into the prefix
(`Win.Closed`), and whatever follows (nothing, or a separator and more) leaves kind, payloads and raw text as
they are: the next separator starts the body.  This is the class the harness lets in as a "well-formed base" on
top of the complete prefixes (`spec::win_stable_prefix`, DESIGN §2.3).

The plain `\\server\` (server other than `?`) is stable too, but only *in the sense of `Stable`*: what follows
must be nothing or a separator.  Joining a name onto a non-verbatim base that already ends in a separator writes
no further one, so `\\server\` + `x` is `\\server\x` with share `x` (the last `example`): that base is not
stable under `push`, and the harness does not let it in.
-/

namespace TP.Win

theorem stable_verbatimUNC_noshare_sep {b rest : Bytes} {p : PrefixComp} {sv : Bytes}
    (h : parsePrefixComp b = some (p, rest)) (hk : p.kind = .verbatimUNC sv [])
    (hlen : p.raw.length = 8 + sv.length + 1) : Stable p :=
  stable_of_closed h (by rw [hk]; exact .inr hlen)

/-- `\\server\` is stable in the sense of `Stable` (not under `push`, see above).  The server must not be `?`:
`\\?\` followed by a separator is a verbatim prefix. -/
theorem stable_unc_noshare_sep {b rest : Bytes} {p : PrefixComp} {sv : Bytes}
    (h : parsePrefixComp b = some (p, rest)) (hk : p.kind = .unc sv [])
    (hlen : p.raw.length = 2 + sv.length + 1) (hq : sv ≠ [QMARK]) : Stable p :=
  stable_of_closed h (by rw [hk]; exact .inr ⟨hlen, hq⟩)

/-! non-vacuity: `\\?\UNC\s\` is such a prefix; followed by `\x` it is the same prefix, the `\` starting the
body; `\\?\UNC\s` (no separator yet) is not stable -/
example : parsePrefix [92, 92, 63, 92, 85, 78, 67, 92, 115, 92] = some (.verbatimUNC [115] [], []) ∧
    parsePrefix ([92, 92, 63, 92, 85, 78, 67, 92, 115, 92] ++ [92, 120]) = some (.verbatimUNC [115] [], [92, 120]) := by decide +kernel
example : parsePrefix ([92, 92, 63, 92, 85, 78, 67, 92, 115] ++ [92, 120]) = some (.verbatimUNC [115] [120], []) := by decide +kernel

-- `\\s\` + `x` (what `push` writes): the share becomes `x`
example : parsePrefix ([92, 92, 115, 92] ++ [120]) = some (.unc [115] [120], []) := by decide +kernel

end TP.Win
