/-
Props/C16e.lean — C16, the last clause: a checked conversion that succeeds returns a path that is
valid in the target encoding and has the same component kinds and names as the source.

Unix → Windows, for sources none of whose names contains a Windows separator (a name that does
is the known finding K4), and Windows → Unix for sources that do not start like a prefix or have a complete
non-verbatim prefix (verbatim prefixes: Props/C16f).  Kinds and names are those of the unchecked conversion; validity
needs no further argument: a forbidden byte in a name would have failed the conversion (`conv_checked_clean`).
-/
import TypedPathVerif.Props.C16b
import TypedPathVerif.Props.C16d
import TypedPathVerif.Props.C16c
import TypedPathVerif.Props.C17

namespace TP.C16e

theorem isValid_of_names (e : Enc) (b : Bytes)
    (h : ∀ s, Comp.normal s ∈ comps e b → ∀ y ∈ s, (forbidden e).contains y = false) :
    isValid e b = true :=
  (C17.path_valid_iff e b).mpr fun s hs y hy hd =>
    absurd (List.contains_iff_mem.mpr ((C17.forbidden_mem e y).mpr hd))
      (by rw [h s hs y hy]; exact Bool.noConfusion)

/-- After a successful checked conversion no source name holds a byte the target forbids, a separator
of the target (K4) apart: it would have made the conversion fail. -/
theorem conv_checked_clean {s t : Enc} (hst : s ≠ t) {b r : Bytes} (h : withEncodingChecked s t b = .ok r)
    {nm : Bytes} (hnm : Comp.normal nm ∈ comps s b) {y : UInt8} (hy : y ∈ nm)
    (hsep : C16d.tsep t y = false) : (forbidden t).contains y = false := by
  cases hf : (forbidden t).contains y with
  | false => rfl
  | true =>
    obtain ⟨e, he⟩ := C16d.conv_checked_fails_forbidden s t b hst nm y hnm hy hf hsep
    rw [he] at h
    cases h

/-- A successful checked conversion returns the unchecked result, and that is valid as soon as each of
its names is a name of the source that contains no separator of the target (K4). -/
theorem conv_checked_valid (s t : Enc) (hst : s ≠ t) (b r : Bytes) (h : withEncodingChecked s t b = .ok r)
    (hnames : ∀ nm, Comp.normal nm ∈ comps t (withEncoding s t b) →
      Comp.normal nm ∈ comps s b ∧ ∀ y ∈ nm, C16d.tsep t y = false) :
    r = withEncoding s t b ∧ isValid t r = true := by
  have hr := C16d.conv_checked_ok_eq_unchecked s t b r h
  refine ⟨hr, isValid_of_names t r fun nm hnm y hy => ?_⟩
  obtain ⟨hsrc, hsep⟩ := hnames nm (hr ▸ hnm)
  exact conv_checked_clean hst h hsrc hy (hsep y hy)

theorem win_name_no_slash {R s : Bytes} (h : Comp.normal s ∈ compsT false true (toks (wsep true) R)) :
    ∀ y ∈ s, C16d.tsep .unix y = false := by
  intro y hy
  have := (normal_mem_compsT (WFToks_toks (wsep true) R) h).2.1 y hy
  simp only [wsep, Bool.true_and, Bool.or_eq_false_iff, decide_eq_false_iff_not] at this
  simp [C16d.tsep, usep, this.2]

/-- **Unix → Windows, checked.**  When the conversion succeeds and no source name contains `\`
(K4), the result has exactly the source's component kinds and names, is prefix-free, and is a
valid Windows path. -/
theorem conv_checked_u2w_valid (b r : Bytes)
    (h : withEncodingChecked .unix .windows b = .ok r)
    (hk4 : ∀ s, Comp.normal s ∈ comps .unix b → ∀ y ∈ s, anySep y = false) :
    r = withEncoding .unix .windows b ∧
    comps .windows r = comps .unix b ∧ C16.pfxStart r = false ∧ isValid .windows r = true := by
  have hport : ∀ s, Comp.normal s ∈ comps .unix b → C16b.portable s := by
    intro s hs
    obtain ⟨h1, _, h3, h4⟩ := normal_mem_compsT (WFToks_toks usep b) (unix_comps_eq b ▸ hs)
    refine ⟨h1, h3, h4, fun y hy => ⟨hk4 s hs y hy, fun hE => ?_⟩⟩
    -- `:` is not a separator, so Windows would have rejected it
    have := conv_checked_clean (by decide) h hs hy (hk4 s hs y hy)
    rw [hE] at this
    revert this
    decide
  obtain ⟨hc, hpf⟩ := C16b.conv_u2w_portable b hport
  obtain ⟨hr, hv⟩ := conv_checked_valid .unix .windows (by decide) b r h fun nm hnm =>
    ⟨hc ▸ hnm, hk4 nm (hc ▸ hnm)⟩
  exact ⟨hr, hr ▸ hc, hr ▸ hpf, hv⟩

/-- **Windows → Unix, checked.**  For a source that does not start like a prefix: when the
conversion succeeds, the result has exactly the source's component kinds and names and is a valid
Unix path. -/
theorem conv_checked_w2u_valid (b r : Bytes)
    (h : withEncodingChecked .windows .unix b = .ok r) (hpf : C16.pfxStart b = false) :
    r = withEncoding .windows .unix b ∧
    comps .unix r = comps .windows b ∧ isValid .unix r = true := by
  have hc := C16.conv_w2u_prefix_free b hpf
  obtain ⟨hr, hv⟩ := conv_checked_valid .windows .unix (by decide) b r h fun nm hnm => by
    rw [hc] at hnm
    exact ⟨hnm, win_name_no_slash (C16.win_comps_pf b hpf ▸ hnm)⟩
  exact ⟨hr, hr ▸ hc, hv⟩

/-- **Windows → Unix, checked, with a prefix** of any kind, under the hypotheses of
`C16c.conv_w2u_of_parse`: the result is the unchecked one and is a valid Unix path. -/
theorem conv_checked_w2u_valid_of_parse (b r rest : Bytes) (p : PrefixComp)
    (h : withEncodingChecked .windows .unix b = .ok r)
    (hp : parsePrefixComp b = some (p, rest))
    (hhead : (∀ d, p.kind ≠ .disk d) → Win.HeadOK (wsep (Win.normOf p.raw)) rest)
    (hport : Win.normOf p.raw = false →
      (∀ y ∈ rest, y ≠ SLASH) ∧ ∀ s, Tok.seg s ∈ toks (wsep true) rest → s ≠ CUR) :
    r = withEncoding .windows .unix b ∧ isValid .unix r = true := by
  obtain ⟨hcb, h2, h3⟩ := C16c.conv_w2u_of_parse b rest p hp hhead hport
  refine conv_checked_valid .windows .unix (by decide) b r h fun nm hnm => ?_
  have hmem : Comp.normal nm ∈ compsT false true (toks (wsep true) rest) := by
    by_cases hd : ∃ d, p.kind = .disk d
    · obtain ⟨d, hd⟩ := hd
      exact h3 d hd ▸ hnm
    · rw [h2 fun d h => hd ⟨d, h⟩] at hnm
      split at hnm
      · exact hnm
      · exact (List.mem_cons.mp hnm).resolve_left Comp.noConfusion
  exact ⟨by rw [hcb]; exact List.mem_cons_of_mem _ hmem, win_name_no_slash hmem⟩

/-- **Windows → Unix, checked, with a complete non-verbatim prefix.**  When the conversion succeeds
the result is the unchecked one — prefix dropped, rooted unless the prefix was a disk — and is a
valid Unix path. -/
theorem conv_checked_w2u_prefixed_valid (b r rest : Bytes) (p : PrefixComp)
    (h : withEncodingChecked .windows .unix b = .ok r)
    (hp : parsePrefixComp b = some (p, rest)) (hc : Win.Complete p.kind)
    (hnv : JoinRules.isVerbatimKind p.kind = false) :
    r = withEncoding .windows .unix b ∧
    (∃ T, comps .windows b = .pfx p :: T ∧
      comps .unix r = (match p.kind with
        | .disk _ => T
        | _ => if T.head? = some .root then T else .root :: T)) ∧
    isValid .unix r = true := by
  obtain ⟨hr, hv⟩ := conv_checked_w2u_valid_of_parse b r rest p h hp
    (C16c.hyps_of_complete hp hc hnv).1 (C16c.hyps_of_complete hp hc hnv).2
  exact ⟨hr, hr ▸ C16c.conv_w2u_prefixed b rest p hp hc hnv, hv⟩

-- `b.t` converts, checked, to a valid Windows path

example : withEncodingChecked .unix .windows [98, 46, 116] = .ok [98, 46, 116] := by
  have hne : Enc.unix ≠ Enc.windows := by decide +kernel
  simp only [withEncodingChecked, hne, if_false]
  rw [C03.comps_new_closed]
  simp only [Enc.new, List.nil_append]
  have : compsT false true (toks usep [98, 46, 116]) = [.normal [98, 46, 116]] := by decide +kernel
  rw [this]
  simp only [convFoldChecked, Comp.isRoot, Comp.isCur, Comp.isParent, Comp.isNormal, Bool.false_eq_true,
    if_false, if_true, Comp.bytes]
  unfold pushChecked
  rw [C03.comps_new_closed]
  decide +kernel

end TP.C16e
