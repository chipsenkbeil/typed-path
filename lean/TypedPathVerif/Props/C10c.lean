/-
Props/C10c.lean — C10 continued: `strip_prefix` on Windows paths read with both separators.

`win_strip_split`: for any such path (`Reach (wsep true) false`: every path that does not start with exactly
`\\?\` — prefix-free, with a disk / device-namespace / UNC prefix, or with a verbatim prefix whose marker is spelled
with a `/`), when `strip_prefix` succeeds and the remainder `r` does not start like a prefix (a remainder such as `C:x`
or `\\x` re-parses with a prefix: known finding K3), the path's components are a run with the base's
texts followed by the remainder's components.

Prefix-free `p`, `q`: the run is the base's components (`win_strip_comps_pf`), the base joined with the
remainder equals the path (`win_strip_join_pf`), joining then stripping gives back the argument's
components (`win_join_strip_pf`).  Complete non-verbatim prefixes on both sides:
`win_strip_split_prefixed`, `win_strip_join_prefixed`.
-/
import TypedPathVerif.Props.C10b
import TypedPathVerif.Props.C12c
import TypedPathVerif.Props.C16b
import TypedPathVerif.Lemmas.WinStable
import TypedPathVerif.Props.C08

namespace TP.C10c

open TP.JoinRules

/-- **`strip_prefix`, split.**  For a Windows path read with both separators, with or without a prefix:
when the remainder does not start like a prefix, the path's components are a run with the base's
texts, then the remainder's components. -/
theorem win_strip_split (p q r : Bytes) (hF : Reach (wsep true) false (Enc.new .windows p))
    (h : stripPrefix .windows p q = some r)
    (hpre : comps .windows q ≠ [] ∨ (Enc.new .windows p).pre = none) (hr : C16.pfxStart r = false) :
    ∃ xs, comps .windows p = xs ++ comps .windows r ∧
      xs.map (Comp.bytes .windows) = (comps .windows q).map (Comp.bytes .windows) := by
  obtain ⟨s', xs, hF', hnone, rfl, hmap, hxs⟩ := strip_reach hF h
  -- (R): the remainder, not starting like a prefix, re-parses to the components that remain
  rw [← hF'.reparse (hnone hpre), ← C16.win_comps_pf _ hr] at hxs
  exact ⟨xs, hxs, hmap⟩

theorem win_strip_comps_pf (p q r : Bytes) (hp : C16.pfxStart p = false) (hq : C16.pfxStart q = false)
    (h : stripPrefix .windows p q = some r) (hr : C16.pfxStart r = false) :
    comps .windows p = comps .windows q ++ comps .windows r := by
  obtain ⟨xs, hsplit, hmap⟩ := win_strip_split p q r (Win.reach_new_pf hp).1 h (Or.inr (Win.reach_new_pf hp).2) hr
  have : xs = comps .windows q := map_bytes_inj_of_canon
    (fun x hx => C10b.canon_comps_pf p hp x (by rw [hsplit]; simp [hx])) (C10b.canon_comps_pf q hq) hmap
  rw [hsplit, this]

theorem comps_ne_nil_of_ne_nil (q : Bytes) (hq : C16.pfxStart q = false) (h : q ≠ []) : comps .windows q ≠ [] := by
  rwa [C16.win_comps_pf q hq, ne_eq, compsT_true_eq_nil, toks_eq_nil_iff]

theorem comps_root_of_sep (r : Bytes) (hr : C16.pfxStart r = false) (hs : startsWithSep r = true) :
    .root ∈ comps .windows r :=
  List.mem_of_mem_head? (C16.win_comps_pf r hr ▸ (Win.head_root_iff_startsWithSep false r).mpr hs)

theorem push_nil (q : Bytes) : push .windows q [] = q :=
  C08.win_push_empty q

/-- **Windows: the base joined with the stripped remainder equals the path** (prefix-free paths,
remainder not starting like a prefix). -/
theorem win_strip_join_pf (p q r : Bytes) (hp : C16.pfxStart p = false) (hq : C16.pfxStart q = false)
    (h : stripPrefix .windows p q = some r) (hr : C16.pfxStart r = false) :
    pathEq .windows (push .windows q r) p = true := by
  have hc := win_strip_comps_pf p q r hp hq h hr
  refine (C05.eq_iff_comps ..).mpr (congrArg _ ?_)
  rw [hc]
  by_cases hre : r = []
  · subst hre
    rw [push_nil, Win.comps_win_nil, List.append_nil]
  by_cases hqe : q = []
  · subst hqe
    rw [C08.win_push_empty_base, Win.comps_win_nil, List.nil_append]
  -- the remainder follows at least one component: `..` and names only
  have htail : ∀ x ∈ comps .windows r, tailOKs (wsep true) x :=
    Parsed.append_right (hc ▸ C16.win_comps_pf p hp ▸ compsT_parsed (WFToks_toks _ p))
      (comps_ne_nil_of_ne_nil q hq hqe)
  have hrel : startsWithSep r = false := by
    cases hs : startsWithSep r with
    | false => rfl
    | true => exact absurd rfl (htail .root (comps_root_of_sep r hr hs)).ne_root
  rw [show push .windows q r = windowsPush q r from rfl,
    (C16b.win_push_comps_pf q r hq hqe hre hr hrel).2, dropLeadingCur_tail htail]

theorem win_join_strip_pf (a b : Bytes) (ha : C16.pfxStart a = false) (hane : a ≠ []) (hbne : b ≠ [])
    (hb : C16.pfxStart b = false) (hrel : startsWithSep b = false) :
    ∃ r, stripPrefix .windows (push .windows a b) a = some r ∧
      (C16.pfxStart r = false → comps .windows r = dropLeadingCur (comps .windows b)) := by
  obtain ⟨hs, hj⟩ := C10b.win_join_starts_pf a b ha hane hbne hb hrel
  have hpf : C16.pfxStart (push .windows a b) = false := (C16b.win_push_comps_pf a b ha hane hbne hb hrel).1
  obtain ⟨r, hst⟩ := stripPrefix_of_starts hs
  refine ⟨r, hst, ?_⟩
  intro hr
  have := win_strip_comps_pf _ _ _ hpf ha hst hr
  rw [hj] at this
  exact (List.append_cancel_left this).symm

theorem win_strip_split_prefixed (p q r rest : Bytes) (pp : PrefixComp)
    (hpp : parsePrefixComp p = some (pp, rest)) (hc : Win.Complete pp.kind)
    (hnv : isVerbatimKind pp.kind = false)
    (h : stripPrefix .windows p q = some r) (hqne : comps .windows q ≠ []) (hr : C16.pfxStart r = false) :
    ∃ xs, comps .windows p = xs ++ comps .windows r ∧
      xs.map (Comp.bytes .windows) = (comps .windows q).map (Comp.bytes .windows) := by
  have hF := reach_new_of_parse hpp
  rw [Win.normOf_raw_of_complete hpp hc hnv] at hF
  exact win_strip_split p q r hF h (Or.inl hqne) hr

theorem prefix_eq_of_raw {a b ra rb : Bytes} {pa pb : PrefixComp}
    (ha : parsePrefixComp a = some (pa, ra)) (hca : Win.Complete pa.kind)
    (hb : parsePrefixComp b = some (pb, rb)) (hcb : Win.Complete pb.kind)
    (h : pa.raw = pb.raw) : pa = pb := by
  have h1 := (Win.stable_of_complete ha hca [] (Win.restOK_nil pa)).1
  have h2 := (Win.stable_of_complete hb hcb [] (Win.restOK_nil pb)).1
  rw [h, h2] at h1
  simp only [Option.some.injEq, Prod.mk.injEq, and_true] at h1
  exact h1.symm

/-- The prefix is told by its raw text, every other component by its text. -/
theorem walked_eq_base {p q restp restq : Bytes} {pp pq : PrefixComp} {xs B : List Comp}
    (hpp : parsePrefixComp p = some (pp, restp)) (hcp : Win.Complete pp.kind)
    (hpq : parsePrefixComp q = some (pq, restq)) (hcq : Win.Complete pq.kind)
    (hsplit : comps .windows p = xs ++ B)
    (hmap : xs.map (Comp.bytes .windows) = (comps .windows q).map (Comp.bytes .windows)) :
    pp = pq ∧ xs = comps .windows q := by
  rw [comps_of_parse hpq] at hmap ⊢
  cases xs with
  | nil => simp at hmap
  | cons x0 xs' =>
    rw [comps_of_parse hpp, List.cons_append] at hsplit
    obtain ⟨hx0, htail⟩ := List.cons.inj hsplit
    subst hx0
    obtain ⟨hraw, hmap'⟩ := List.cons.inj hmap
    have hpe := prefix_eq_of_raw hpp hcp hpq hcq hraw
    refine ⟨hpe, ?_⟩
    rw [hpe, map_bytes_inj_of_canon
      (fun x hx => canon_compsT .windows (Win.wsep_bslash _) _ restp x (by rw [htail]; simp [hx]))
      (canon_compsT .windows (Win.wsep_bslash _) _ restq) hmap']

/-- **Windows, complete non-verbatim prefixes on both sides: the base joined with the stripped
remainder equals the path** (remainder not starting like a prefix; a differently spelled prefix
makes `strip_prefix` fail instead: K2). -/
theorem win_strip_join_prefixed (p q r restp restq : Bytes) (pp pq : PrefixComp)
    (hpp : parsePrefixComp p = some (pp, restp)) (hcp : Win.Complete pp.kind) (hnvp : isVerbatimKind pp.kind = false)
    (hpq : parsePrefixComp q = some (pq, restq)) (hcq : Win.Complete pq.kind) (hnvq : isVerbatimKind pq.kind = false)
    (h : stripPrefix .windows p q = some r) (hr : C16.pfxStart r = false) :
    comps .windows p = comps .windows q ++ comps .windows r ∧
    pathEq .windows (push .windows q r) p = true := by
  have hcompp := Win.comps_prefixed hpp hcp hnvp
  have hcompq := Win.comps_prefixed hpq hcq hnvq
  obtain ⟨xs, hsplit, hmap⟩ := win_strip_split_prefixed p q r restp pp hpp hcp hnvp h
    (by rw [hcompq]; simp) hr
  obtain ⟨hpe, hxs⟩ := walked_eq_base hpp hcp hpq hcq hsplit hmap
  subst hpe
  subst hxs
  refine ⟨hsplit, (C05.eq_iff_comps ..).mpr (congrArg _ ?_)⟩
  rw [hsplit]
  have htail : compsT false true (toks (wsep true) restp) =
      compsT false true (toks (wsep true) restq) ++ comps .windows r := by
    rw [hcompp, hcompq] at hsplit
    exact (List.cons.inj hsplit).2
  have htl : compsT false true (toks (wsep true) restq) ≠ [] → ∀ x ∈ comps .windows r, tailOKs (wsep true) x :=
    Parsed.append_right (htail ▸ compsT_parsed (WFToks_toks _ restp))
  by_cases hre : r = []
  · subst hre
    rw [push_nil, Win.comps_win_nil, List.append_nil]
  cases hrs : startsWithSep r with
  | true =>
    -- a rooted remainder: the base was the bare prefix
    obtain ⟨hbytes, _, hcr⟩ := C12c.push_rooted hpq hcq hnvq hr hrs
    have hq0 : compsT false true (toks (wsep true) restq) = [] := by
      cases hq' : compsT false true (toks (wsep true) restq) with
      | nil => rfl
      | cons c' q' => exact absurd rfl (htl (by simp [hq']) .root (comps_root_of_sep r hr hrs)).ne_root
    rw [hbytes, hcr, hcompq, hq0]
    rfl
  | false =>
    obtain ⟨_, hpush⟩ := Win.win_push_comps_prefixed q r restq pp hpq hcq hnvq hre hr hrs
    rw [show push .windows q r = windowsPush q r from rfl, hpush]
    by_cases hrq : restq = []
    · subst hrq
      have hq0 : compsT false true (toks (wsep true) ([] : Bytes)) = [] := rfl
      rw [hq0, List.nil_append] at htail
      rw [if_pos rfl, hcompq, hq0]
      by_cases hd : ∃ d, pp.kind = .disk d
      · obtain ⟨d, hd⟩ := hd
        rw [hd]
        rfl
      · -- a non-disk prefix is followed by a root or nothing; the remainder is neither
        exfalso
        have hh := Win.headOK_of_not_disk hpp hcp hnvp (fun d h => hd ⟨d, h⟩)
        rcases Win.compsT_of_headOK false hh with h0 | ⟨t, ht⟩
        · exact comps_ne_nil_of_ne_nil r hr hre (htail ▸ h0)
        · exact Win.rel_of_not_startsWithSep r hrs (by rw [← C16.win_comps_pf r hr, ← htail, ht]; rfl)
    · rw [if_neg hrq, dropLeadingCur_tail (htl ?_)]
      intro h0
      cases ht : toks (wsep true) restq with
      | nil => exact hrq ((toks_eq_nil_iff _ _).mp ht)
      | cons t ts =>
        rw [ht, compsT_true_cons] at h0
        cases h0

-- `a\b\c` stripped of `a/` is `b\c`
example : stripPrefix .windows [97, 92, 98, 92, 99] [97, 47] = some [98, 92, 99] := by
  unfold stripPrefix; rw [C03.comps_new_closed]; decide +kernel

-- `C:\a\b` stripped of `C:/a` is `b`; `\\s\h\a` stripped of `\\s\h` is `\a` (a rooted remainder)
example : stripPrefix .windows [67, 58, 92, 97, 92, 98] [67, 58, 47, 97] = some [98] := by
  unfold stripPrefix; rw [C03.comps_new_closed]; decide +kernel
example : stripPrefix .windows [92, 92, 115, 92, 104, 92, 97] [92, 92, 115, 92, 104] = some [92, 97] := by
  unfold stripPrefix; rw [C03.comps_new_closed]; decide +kernel
example : parsePrefixComp [92, 92, 115, 92, 104, 92, 97] = some (⟨[92, 92, 115, 92, 104], .unc [115] [104]⟩, [92, 97]) ∧
    Win.Complete (WPrefix.unc [115] [104]) ∧ isVerbatimKind (WPrefix.unc [115] [104]) = false := by
  refine ⟨by decide +kernel, ?_, by decide +kernel⟩
  simp [Win.Complete]

end TP.C10c
