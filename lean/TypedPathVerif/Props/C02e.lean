/-
Props/C02e.lean — the order of alternatives of the Windows component parser (regenerated table, gen/alts.py).
Kept in a file of its own, importing nothing but the table, so that only a change to the parser's ordered
choices can break it.
-/
import TypedPathVerif.Generated.Alts

namespace TP.C02e

/-- The six prefix parsers in the order `Win.parsePrefix_alts` assumes (verbatim UNC, verbatim disk, verbatim,
device namespace, UNC, disk), `prefix_verbatim` = a name or (peeked) a separator, a front step at the
beginning = root, `.`, file name, skipping = separators and (when normalising) `.` segments. -/
def coveredWindowsAlts : List (String × List String) := [
  ("windows/non_utf8::parse_front", ["root_dir", "cur_dir", "filename"]),
  ("windows/non_utf8::move_front_to_next", ["separator(normalize)", "map(cur_dir(normalize), |_| ())"]),
  ("windows/non_utf8::prefix", ["prefix_verbatim_unc", "prefix_verbatim_disk", "prefix_verbatim", "prefix_device_ns", "prefix_unc", "prefix_disk"]),
  ("windows/non_utf8::prefix_verbatim", ["normal_bytes(normalized)", "map(peek(separator(normalized)), |_| b\"\")"])
]

theorem windows_parser_alts_covered : Generated.windowsParserAlts = coveredWindowsAlts := rfl

end TP.C02e
