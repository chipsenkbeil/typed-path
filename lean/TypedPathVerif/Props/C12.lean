/-
Props/C12.lean — File name, stem and extension decompose the last component.

Here: the three queries, both encodings.  The replacement clause (`with_file_name`) needs the
append lemma: Props/C12b (Unix), Props/C12c and C12d (Windows).
-/
import TypedPathVerif.Lemmas.DotSplit
import TypedPathVerif.Props.C09

namespace TP.C12

theorem fileName_eq_some_iff {e : Enc} {b f : Bytes} :
    fileName e b = some f ↔ ∃ s', (e.new b).nextBack = some (.normal f, s') := by
  unfold fileName
  cases (e.new b).nextBack with
  | none => simp
  | some r =>
    obtain ⟨c, s'⟩ := r
    cases c <;> simp

theorem parent_of_fileName {e : Enc} {b f : Bytes} (h : fileName e b = some f) : ∃ q, parent e b = some q := by
  obtain ⟨s', hb⟩ := fileName_eq_some_iff.mp h
  exact ⟨_, C09.parent_eq_some_iff.mpr ⟨_, s', hb, rfl, rfl⟩⟩

theorem setFileName_of_fileName {e : Enc} {b f q : Bytes} (n : Bytes) (hf : fileName e b = some f)
    (hq : parent e b = some q) : setFileName e b n = push e q n := by
  simp only [setFileName, hf, Option.isSome_some, if_true]
  rw [C09.pop_eq_parent, hq]

theorem setFileName_of_none {e : Enc} {b n : Bytes} (h : fileName e b = none) :
    setFileName e b n = push e b n := by
  simp [setFileName, h]

/-- `file_name` is the last component when that component is a normal name, absent otherwise. -/
theorem file_name_iff_last_normal (e : Enc) (b s : Bytes) :
    fileName e b = some s ↔ (comps e b).getLast? = some (.normal s) := by
  unfold fileName
  cases hb : (e.new b).nextBack with
  | none =>
    have := (C09.nextBack_new_none_iff e b).mp hb
    simp [this]
  | some r =>
    obtain ⟨c, s'⟩ := r
    have hlast := (C09.parent_state_comps e b hb).2
    rw [hlast]
    cases c <;> simp

/-- `hpar`: the parent re-parses to the components without the last one (all Unix paths, covered Windows paths). -/
theorem fileName_parent_of_comps {e : Enc} {b n : Bytes} {cs : List Comp}
    (hpar : ∀ q, parent e b = some q → comps e q = (comps e b).dropLast) (h : comps e b = cs ++ [.normal n]) :
    fileName e b = some n ∧ ∃ q, parent e b = some q ∧ comps e q = cs := by
  have hfn : fileName e b = some n := by
    rw [file_name_iff_last_normal, h]
    exact List.getLast?_concat
  obtain ⟨q, hq⟩ := parent_of_fileName hfn
  exact ⟨hfn, q, hq, by rw [hpar q hq, h, List.dropLast_concat]⟩

theorem file_name_none_iff (e : Enc) (b : Bytes) :
    fileName e b = none ↔ ∀ s, (comps e b).getLast? ≠ some (.normal s) := by
  constructor
  · intro h s hs
    rw [← file_name_iff_last_normal] at hs
    rw [h] at hs; cases hs
  · intro h
    cases hf : fileName e b with
    | none => rfl
    | some s => exact absurd ((file_name_iff_last_normal e b s).mp hf) (h s)

/-- Without a file name there is neither stem nor extension. -/
theorem no_file_name_no_stem_ext (e : Enc) (b : Bytes) (h : fileName e b = none) :
    fileStem e b = none ∧ extension e b = none := by
  simp [fileStem, extension, h]

/-- Stem and extension split the file name `f` at its last dot:
either there is no extension and the stem is the whole name — exactly when `f` is `..`, has no
dot, or its only dot is its first byte — or stem, a dot and the extension reproduce `f`, the
extension is dot-free and the stem non-empty. -/
theorem stem_ext_split (e : Enc) (b f : Bytes) (h : fileName e b = some f) :
    (fileStem e b = some f ∧ extension e b = none ∧
        (f = PAR ∨ DOT ∉ f ∨ ∃ t, f = DOT :: t ∧ DOT ∉ t)) ∨
    (∃ st x, fileStem e b = some st ∧ extension e b = some x ∧ st ++ DOT :: x = f ∧
        DOT ∉ x ∧ st ≠ [] ∧ f ≠ PAR) := by
  rcases rsplitDot_spec f with ⟨h1, h2⟩ | ⟨h1, h2⟩ | ⟨before, after, h1, h2, h3, h4, h5⟩
  · left
    refine ⟨by simp [fileStem, h, h1], by simp [extension, h, h1], ?_⟩
    rcases h2 with h2 | h2
    · exact Or.inl h2
    · exact Or.inr (Or.inr h2)
  · left
    exact ⟨by simp [fileStem, h, h1], by simp [extension, h, h1], Or.inr (Or.inl h2)⟩
  · right
    exact ⟨before, after, by simp [fileStem, h, h1], by simp [extension, h, h1], h2.symm, h3, h4, h5⟩

/-- A name whose only dot is its first byte has no extension. -/
theorem leading_dot_no_extension (e : Enc) (b t : Bytes) (h : fileName e b = some (DOT :: t))
    (ht : DOT ∉ t) : extension e b = none ∧ fileStem e b = some (DOT :: t) := by
  rcases stem_ext_split e b _ h with ⟨h1, h2, _⟩ | ⟨st, x, _, _, h3, h4, h5, _⟩
  · exact ⟨h2, h1⟩
  · exfalso
    cases st with
    | nil => exact h5 rfl
    | cons y st' =>
      simp only [List.cons_append, List.cons.injEq] at h3
      have : DOT ∈ t := by rw [← h3.2]; simp
      exact ht this

example : rsplitDot [97, 46, 116, 97, 114, 46, 103, 122] = (some [97, 46, 116, 97, 114], some [103, 122]) := by decide +kernel
example : rsplitDot [46, 98] = (some [46, 98], none) := by decide +kernel
example : fileName .unix [47, 97, 47, 98, 46, 99, 47, 46] = some [98, 46, 99] := by decide +kernel
example : extension .windows [67, 58, 92, 97, 46, 98, 92] = some [98] := by decide +kernel

end TP.C12
