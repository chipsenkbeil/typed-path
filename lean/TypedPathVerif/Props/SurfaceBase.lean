/-
Props/SurfaceBase.lean — the trait-impl surface of the `base` group of source files, as the checks of C20 were
written against it.  `Generated.implMethods_base` is regenerated on every run (gen/api.py): every
trait impl outside test modules with the methods written inside it — required ones and overridden
provided ones alike.  An added override (`nth`, `size_hint`, `clone_into`, `fold`, …), a new impl
or a removed one changes the regenerated table and breaks `impl_methods_base`, so C20 is reported as
no longer shown for "every operation".
-/
import TypedPathVerif.Generated.Api

namespace TP.SurfaceBase

def covered : List String :=
  ["common/errors | fmt::Display for StripPrefixError | fmt",
   "common/errors | fmt::Display for CheckedPathError | fmt",
   "common/non_utf8/iter | fmt::Debug for Iter<T> | fmt",
   "common/non_utf8/iter | fmt::Debug for DebugHelper<T> | fmt",
   "common/non_utf8/iter | AsRef<Path<T>> for Iter<T> | as_ref",
   "common/non_utf8/iter | AsRef<[u8]> for Iter<T> | as_ref",
   "common/non_utf8/iter | Iterator for Iter<T> | next",
   "common/non_utf8/iter | DoubleEndedIterator for Iter<T> | next_back",
   "common/non_utf8/iter | Iterator for Ancestors<T> | next",
   "common/non_utf8/path | Clone for Box<Path<T>> | clone",
   "common/non_utf8/path | AsRef<[u8]> for Path<T> | as_ref",
   "common/non_utf8/path | AsRef<Path<T>> for Path<T> | as_ref",
   "common/non_utf8/path | AsRef<Path<T>> for [u8] | as_ref",
   "common/non_utf8/path | AsRef<Path<T>> for Cow<[u8]> | as_ref",
   "common/non_utf8/path | AsRef<Path<T>> for Vec<u8> | as_ref",
   "common/non_utf8/path | AsRef<Path<T>> for str | as_ref",
   "common/non_utf8/path | AsRef<Path<T>> for String | as_ref",
   "common/non_utf8/path | fmt::Debug for Path<T> | fmt",
   "common/non_utf8/path | fmt::Display for Path<T> | fmt",
   "common/non_utf8/path | cmp::PartialEq for Path<T> | eq",
   "common/non_utf8/path | Hash for Path<T> | hash",
   "common/non_utf8/path | cmp::PartialOrd for Path<T> | partial_cmp",
   "common/non_utf8/path | cmp::Ord for Path<T> | cmp",
   "common/non_utf8/path | From<&Path<T>> for Box<Path<T>> | from",
   "common/non_utf8/path | From<Cow<Path<T>>> for Box<Path<T>> | from",
   "common/non_utf8/path | From<PathBuf<T>> for Box<Path<T>> | from",
   "common/non_utf8/path | From<&Path<T>> for Cow<Path<T>> | from",
   "common/non_utf8/path | From<PathBuf<T>> for Cow<Path<T>> | from",
   "common/non_utf8/path | From<&PathBuf<T>> for Cow<Path<T>> | from",
   "common/non_utf8/path | From<PathBuf<T>> for Arc<Path<T>> | from",
   "common/non_utf8/path | From<&Path<T>> for Arc<Path<T>> | from",
   "common/non_utf8/path | From<PathBuf<T>> for Rc<Path<T>> | from",
   "common/non_utf8/path | From<&Path<T>> for Rc<Path<T>> | from",
   "common/non_utf8/path | IntoIterator for &Path<T> | into_iter",
   "common/non_utf8/path | ToOwned for Path<T> | to_owned",
   "common/non_utf8/path | PartialEq<$rhs> for $lhs | eq",
   "common/non_utf8/path | PartialEq<$lhs> for $rhs | eq",
   "common/non_utf8/path | PartialOrd<$rhs> for $lhs | partial_cmp",
   "common/non_utf8/path | PartialOrd<$lhs> for $rhs | partial_cmp",
   "common/non_utf8/path | PartialEq<$rhs> for $lhs | eq",
   "common/non_utf8/path | PartialEq<$lhs> for $rhs | eq",
   "common/non_utf8/path | PartialOrd<$rhs> for $lhs | partial_cmp",
   "common/non_utf8/path | PartialOrd<$lhs> for $rhs | partial_cmp",
   "common/non_utf8/path | AsRef<Path<T>> for OsStr | as_ref",
   "common/non_utf8/path | AsRef<Path<T>> for OsString | as_ref",
   "common/non_utf8/path | AsRef<OsStr> for Path<T> | as_ref",
   "common/non_utf8/path/display | fmt::Debug for Display<T> | fmt",
   "common/non_utf8/path/display | fmt::Display for Display<T> | fmt",
   "common/non_utf8/pathbuf | Clone for PathBuf<T> | clone",
   "common/non_utf8/pathbuf | fmt::Debug for PathBuf<T> | fmt",
   "common/non_utf8/pathbuf | AsRef<[u8]> for PathBuf<T> | as_ref",
   "common/non_utf8/pathbuf | AsRef<Path<T>> for PathBuf<T> | as_ref",
   "common/non_utf8/pathbuf | Borrow<Path<T>> for PathBuf<T> | borrow",
   "common/non_utf8/pathbuf | Default for PathBuf<T> | default",
   "common/non_utf8/pathbuf | Deref for PathBuf<T> | deref",
   "common/non_utf8/pathbuf | PartialEq for PathBuf<T> | eq",
   "common/non_utf8/pathbuf | Extend<P> for PathBuf<T> | extend",
   "common/non_utf8/pathbuf | From<Box<Path<T>>> for PathBuf<T> | from",
   "common/non_utf8/pathbuf | From<&V> for PathBuf<T> | from",
   "common/non_utf8/pathbuf | From<Vec<u8>> for PathBuf<T> | from",
   "common/non_utf8/pathbuf | From<PathBuf<T>> for Vec<u8> | from",
   "common/non_utf8/pathbuf | From<String> for PathBuf<T> | from",
   "common/non_utf8/pathbuf | FromStr for PathBuf<T> | from_str",
   "common/non_utf8/pathbuf | From<Cow<Path<T>>> for PathBuf<T> | from",
   "common/non_utf8/pathbuf | FromIterator<P> for PathBuf<T> | from_iter",
   "common/non_utf8/pathbuf | Hash for PathBuf<T> | hash",
   "common/non_utf8/pathbuf | IntoIterator for &PathBuf<T> | into_iter",
   "common/non_utf8/pathbuf | cmp::PartialOrd for PathBuf<T> | partial_cmp",
   "common/non_utf8/pathbuf | cmp::Ord for PathBuf<T> | cmp",
   "common/non_utf8/pathbuf | TryFrom<PathBuf<T>> for std::path::PathBuf | try_from",
   "common/non_utf8/pathbuf | TryFrom<std::path::PathBuf> for PathBuf<T> | try_from",
   "common/non_utf8/pathbuf | From<PathBuf<T>> for OsString | from",
   "common/non_utf8/pathbuf | AsRef<OsStr> for PathBuf<T> | as_ref",
   "platform | Encoding<> for PlatformEncoding | label,components,hash,push,push_checked",
   "platform | fmt::Debug for PlatformEncoding | fmt",
   "platform | fmt::Display for PlatformEncoding | fmt",
   "platform | Utf8Encoding<> for Utf8PlatformEncoding | label,components,hash,push,push_checked",
   "platform | fmt::Debug for Utf8PlatformEncoding | fmt",
   "platform | fmt::Display for Utf8PlatformEncoding | fmt",
   "platform | AsRef<StdPath> for Utf8PlatformPath | as_ref",
   "platform | AsRef<StdPath> for Utf8PlatformPathBuf | as_ref",
   "platform | From<Utf8PlatformPathBuf> for StdPathBuf | from",
   "unix/non_utf8 | Encoding<> for UnixEncoding | label,components,hash,push,push_checked",
   "unix/non_utf8 | fmt::Debug for UnixEncoding | fmt",
   "unix/non_utf8 | fmt::Display for UnixEncoding | fmt",
   "unix/non_utf8/components | Components<> for UnixComponents<> | as_bytes,is_absolute,has_root",
   "unix/non_utf8/components | AsRef<[u8]> for UnixComponents<> | as_ref",
   "unix/non_utf8/components | AsRef<Path<T>> for UnixComponents<> | as_ref",
   "unix/non_utf8/components | fmt::Debug for UnixComponents<> | fmt",
   "unix/non_utf8/components | fmt::Debug for DebugHelper<> | fmt",
   "unix/non_utf8/components | Iterator for UnixComponents<> | next",
   "unix/non_utf8/components | DoubleEndedIterator for UnixComponents<> | next_back",
   "unix/non_utf8/components | cmp::PartialEq for UnixComponents<> | eq",
   "unix/non_utf8/components | cmp::PartialOrd for UnixComponents<> | partial_cmp",
   "unix/non_utf8/components | cmp::Ord for UnixComponents<> | cmp",
   "unix/non_utf8/components/component | Component<> for UnixComponent<> | as_bytes,is_root,is_normal,is_parent,is_current,is_valid,len,root,parent,current",
   "unix/non_utf8/components/component | AsRef<[u8]> for UnixComponent<> | as_ref",
   "unix/non_utf8/components/component | AsRef<Path<T>> for UnixComponent<> | as_ref",
   "unix/non_utf8/components/component | TryFrom<&[u8]> for UnixComponent<> | try_from",
   "unix/non_utf8/components/component | TryFrom<&str> for UnixComponent<> | try_from",
   "unix/non_utf8/components/component | TryFrom<UnixComponent<>> for std::path::Component<> | try_from",
   "unix/non_utf8/components/component | TryFrom<std::path::Component<>> for UnixComponent<> | try_from",
   "windows/non_utf8 | Encoding<> for WindowsEncoding | label,components,hash",
   "windows/non_utf8/components | Components<> for WindowsComponents<> | as_bytes,is_absolute,has_root",
   "windows/non_utf8/components | AsRef<[u8]> for WindowsComponents<> | as_ref",
   "windows/non_utf8/components | AsRef<Path<T>> for WindowsComponents<> | as_ref",
   "windows/non_utf8/components | fmt::Debug for WindowsComponents<> | fmt",
   "windows/non_utf8/components | fmt::Debug for DebugHelper<> | fmt",
   "windows/non_utf8/components | Iterator for WindowsComponents<> | next",
   "windows/non_utf8/components | DoubleEndedIterator for WindowsComponents<> | next_back",
   "windows/non_utf8/components | cmp::PartialEq for WindowsComponents<> | eq",
   "windows/non_utf8/components | cmp::PartialOrd for WindowsComponents<> | partial_cmp",
   "windows/non_utf8/components | cmp::Ord for WindowsComponents<> | cmp",
   "windows/non_utf8/components/component | Component<> for WindowsComponent<> | as_bytes,is_root,is_normal,is_parent,is_current,is_valid,len,root,parent,current",
   "windows/non_utf8/components/component | AsRef<[u8]> for WindowsComponent<> | as_ref",
   "windows/non_utf8/components/component | AsRef<Path<T>> for WindowsComponent<> | as_ref",
   "windows/non_utf8/components/component | TryFrom<&[u8]> for WindowsComponent<> | try_from",
   "windows/non_utf8/components/component | TryFrom<&str> for WindowsComponent<> | try_from",
   "windows/non_utf8/components/component | TryFrom<WindowsComponent<>> for std::path::Component<> | try_from",
   "windows/non_utf8/components/component | TryFrom<std::path::Component<>> for WindowsComponent<> | try_from",
   "windows/non_utf8/components/component/prefix | TryFrom<&[u8]> for WindowsPrefixComponent<> | try_from",
   "windows/non_utf8/components/component/prefix | TryFrom<&str> for WindowsPrefixComponent<> | try_from",
   "windows/non_utf8/components/component/prefix | cmp::PartialEq for WindowsPrefixComponent<> | eq",
   "windows/non_utf8/components/component/prefix | cmp::PartialOrd for WindowsPrefixComponent<> | partial_cmp",
   "windows/non_utf8/components/component/prefix | cmp::Ord for WindowsPrefixComponent<> | cmp",
   "windows/non_utf8/components/component/prefix | Hash for WindowsPrefixComponent<> | hash",
   "windows/non_utf8/components/component/prefix | TryFrom<&[u8]> for WindowsPrefix<> | try_from",
   "windows/non_utf8/components/component/prefix | TryFrom<&str> for WindowsPrefix<> | try_from"]

theorem impl_methods_base : Generated.implMethods_base = covered := rfl

end TP.SurfaceBase
