/-
Props/C16f.lean — C16 continued: Windows → Unix for paths with a complete VERBATIM prefix (`C16f`), and with a
verbatim prefix that is only stable (`C16g`).

`Props/C16c` proves "the prefix is dropped, a non-disk-prefixed path becomes a rooted Unix path, every
other component keeps its kind and name" for disk, device-namespace and UNC prefixes.  Here the same
for `\\?\name`, `\\?\UNC\server\share` and `\\?\C:` (all of them non-disk kinds in the sense of
`is_root()`: the Unix result is rooted), in every spelling of the marker:

* a marker that is not exactly `\\?\` is parsed like any other path (both separators, `.` dropped):
  no further hypothesis;
* under the exact marker only `\` separates and `.` segments are kept as components; the statement
  is for rests without `/` and without `.` segments (a name containing `/` becomes two Unix
  components, a kept `.` disappears on the Unix side — both outside "keeps kinds and names").

What follows the prefix must be nothing or a separator; for `\\?\C:` that is a hypothesis (`\\?\C:x`,
a name glued to the verbatim disk, is the corner left to the oracle), for the other two kinds the
parser guarantees it.
-/
import TypedPathVerif.Props.C16e
import TypedPathVerif.Lemmas.WinVerbatim

namespace TP.C16f

open TP.JoinRules

/-- **Windows → Unix with a complete verbatim prefix.**  `T` is what follows the prefix component;
the Unix result is rooted and has exactly those components. -/
theorem conv_w2u_verbatim (b rest : Bytes) (p : PrefixComp)
    (hp : parsePrefixComp b = some (p, rest)) (hc : Win.Complete p.kind) (hv : isVerbatimKind p.kind = true)
    (hhead : Win.HeadOK (wsep (Win.normOf p.raw)) rest)
    (hport : Win.normOf p.raw = false →
      (∀ y ∈ rest, y ≠ SLASH) ∧ ∀ s, Tok.seg s ∈ toks (wsep true) rest → s ≠ CUR) :
    ∃ T, T = compsT false true (toks (wsep true) rest) ∧ comps .windows b = .pfx p :: T ∧
      comps .unix (withEncoding .windows .unix b) = if T.head? = some .root then T else .root :: T := by
  obtain ⟨h1, h2, _⟩ := C16c.conv_w2u_of_parse b rest p hp (fun _ => hhead) hport
  exact ⟨_, rfl, h1, h2 (Win.isVerbatimKind_not_disk hv)⟩

/-- **Windows → Unix, checked, with a complete verbatim prefix.**  When the conversion succeeds the
result is the unchecked one — prefix dropped, rooted — and is a valid Unix path. -/
theorem conv_checked_w2u_verbatim_valid (b r rest : Bytes) (p : PrefixComp)
    (h : withEncodingChecked .windows .unix b = .ok r)
    (hp : parsePrefixComp b = some (p, rest)) (hc : Win.Complete p.kind) (hv : isVerbatimKind p.kind = true)
    (hhead : Win.HeadOK (wsep (Win.normOf p.raw)) rest)
    (hport : Win.normOf p.raw = false →
      (∀ y ∈ rest, y ≠ SLASH) ∧ ∀ s, Tok.seg s ∈ toks (wsep true) rest → s ≠ CUR) :
    r = withEncoding .windows .unix b ∧
    (∃ T, comps .windows b = .pfx p :: T ∧
      comps .unix r = if T.head? = some .root then T else .root :: T) ∧
    isValid .unix r = true := by
  obtain ⟨hr, hval⟩ := C16e.conv_checked_w2u_valid_of_parse b r rest p h hp (fun _ => hhead) hport
  obtain ⟨T, _, hT, hconv⟩ := conv_w2u_verbatim b rest p hp hc hv hhead hport
  exact ⟨hr, ⟨T, hT, hr ▸ hconv⟩, hval⟩

-- `\\?\C:\a\b` → `/a/b`
example : withEncoding .windows .unix [92, 92, 63, 92, 67, 58, 92, 97, 92, 98] = [47, 97, 47, 98] := by
  unfold withEncoding; rw [C03.comps_new_closed]; decide +kernel
-- `\\?\pics\a` → `/a`
example : withEncoding .windows .unix [92, 92, 63, 92, 112, 105, 99, 115, 92, 97] = [47, 97] := by
  unfold withEncoding; rw [C03.comps_new_closed]; decide +kernel
-- the hypotheses are met by `\\?\C:` followed by `\a\b`
example : parsePrefixComp [92, 92, 63, 92, 67, 58, 92, 97, 92, 98] =
    some (⟨[92, 92, 63, 92, 67, 58], .verbatimDisk 67⟩, [92, 97, 92, 98]) := by decide +kernel

end TP.C16f

/-! ## a verbatim prefix that is stable but not complete

The same two statements with `Win.Stable p` in place of completeness of the prefix, which covers
`\\?\UNC\server\…` (Props/C02c).  Neither hypothesis enters the proofs: the conversion reads the source once
(`C16c.conv_w2u_of_parse`), and nothing is parsed again under the prefix. -/

namespace TP.C16g

open TP.JoinRules

theorem conv_w2u_verbatim_of_stable (b rest : Bytes) (p : PrefixComp)
    (hp : parsePrefixComp b = some (p, rest)) (hs : Win.Stable p) (hok : Win.RestOK p rest) (hv : isVerbatimKind p.kind = true)
    (hhead : Win.HeadOK (wsep (Win.normOf p.raw)) rest)
    (hport : Win.normOf p.raw = false →
      (∀ y ∈ rest, y ≠ SLASH) ∧ ∀ s, Tok.seg s ∈ toks (wsep true) rest → s ≠ CUR) :
    ∃ T, T = compsT false true (toks (wsep true) rest) ∧ comps .windows b = .pfx p :: T ∧
      comps .unix (withEncoding .windows .unix b) = if T.head? = some .root then T else .root :: T := by
  obtain ⟨h1, h2, _⟩ := C16c.conv_w2u_of_parse b rest p hp (fun _ => hhead) hport
  exact ⟨_, rfl, h1, h2 (Win.isVerbatimKind_not_disk hv)⟩

/-- **Windows → Unix, checked, with a stable verbatim prefix.**  When the conversion succeeds the
result is the unchecked one — prefix dropped, rooted — and is a valid Unix path. -/
theorem conv_checked_w2u_verbatim_valid_of_stable (b r rest : Bytes) (p : PrefixComp)
    (h : withEncodingChecked .windows .unix b = .ok r)
    (hp : parsePrefixComp b = some (p, rest)) (hs : Win.Stable p) (hok : Win.RestOK p rest) (hv : isVerbatimKind p.kind = true)
    (hhead : Win.HeadOK (wsep (Win.normOf p.raw)) rest)
    (hport : Win.normOf p.raw = false →
      (∀ y ∈ rest, y ≠ SLASH) ∧ ∀ s, Tok.seg s ∈ toks (wsep true) rest → s ≠ CUR) :
    r = withEncoding .windows .unix b ∧
    (∃ T, comps .windows b = .pfx p :: T ∧
      comps .unix r = if T.head? = some .root then T else .root :: T) ∧
    isValid .unix r = true := by
  obtain ⟨hr, hval⟩ := C16e.conv_checked_w2u_valid_of_parse b r rest p h hp (fun _ => hhead) hport
  obtain ⟨T, _, hT, hconv⟩ := conv_w2u_verbatim_of_stable b rest p hp hs hok hv hhead hport
  exact ⟨hr, ⟨T, hT, hr ▸ hconv⟩, hval⟩

-- `\\?\C:\a\b` → `/a/b`
example : withEncoding .windows .unix [92, 92, 63, 92, 67, 58, 92, 97, 92, 98] = [47, 97, 47, 98] := by
  unfold withEncoding; rw [C03.comps_new_closed]; decide +kernel
-- `\\?\pics\a` → `/a`
example : withEncoding .windows .unix [92, 92, 63, 92, 112, 105, 99, 115, 92, 97] = [47, 97] := by
  unfold withEncoding; rw [C03.comps_new_closed]; decide +kernel
-- the hypotheses are met by `\\?\C:` followed by `\a\b`
example : parsePrefixComp [92, 92, 63, 92, 67, 58, 92, 97, 92, 98] =
    some (⟨[92, 92, 63, 92, 67, 58], .verbatimDisk 67⟩, [92, 97, 92, 98]) := by decide +kernel

end TP.C16g
