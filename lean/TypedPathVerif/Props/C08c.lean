/-
Props/C08c.lean — C08 continued: Windows bases with a VERBATIM prefix (`C08c`; rooted arguments `C08d`; the stable
incomplete base `\\?\UNC\server\` `C08e`).

"Joining onto a verbatim-prefixed base normalises the incoming path: `.` dropped, `..` cancelling
only a preceding normal component, never the root or the prefix; a root resets to the prefix."

`push` renders the scan `verbatimFold (comps a) (comps b)` (`C08.win_push_verbatim`).  The scan keeps the buffer
in the shape `Win.VShape` — the prefix, perhaps a root, then items that each read as themselves (`vstep_vshape`) —
and what is rendered from such a buffer under a stable prefix parses back to it, the root after the prefix written
out (`Win.render_parse_strong`).  That is `win_push_comps_verbatim_stable`; the other statements about `push` in
this file are instances of it.
-/
import TypedPathVerif.Lemmas.WinVerbatim
import TypedPathVerif.Lemmas.WinPush
import TypedPathVerif.Lemmas.WinAppend
import TypedPathVerif.Lemmas.NormFold
import TypedPathVerif.Props.C02c

namespace TP.C08c

open TP.JoinRules TP.Win

/-- incoming components of a relative, prefix-free argument -/
def Incoming (n : Bool) (c : Comp) : Prop := c = .cur ∨ c = .parent ∨ ∃ s, c = .normal s ∧ Item n (.normal s)

/-- incoming components of any prefix-free argument: those of a relative one, or a root -/
def Incoming₀ (n : Bool) (c : Comp) : Prop := c = .root ∨ Incoming n c

theorem vstep_vshape {n : Bool} {p : PrefixComp} (L : List Comp) (c : Comp) (hL : VShape n p L)
    (hc : Incoming₀ n c) : VShape n p (vstep L c) := by
  obtain ⟨lead, items, hlead, rfl, hi⟩ := vshape_iff.mp hL
  rcases hc with rfl | rfl | rfl | ⟨s, rfl, hitem⟩
  · -- a root resets to the prefix
    refine vshape_iff.mpr ⟨_, [], .inr rfl, ?_, fun _ h => nomatch h⟩
    rcases hlead with rfl | rfl <;> rfl
  · exact hL
  · rcases List.eq_nil_or_concat items with rfl | ⟨its, a, rfl⟩
    · -- nothing above the lead, whose last component is no name
      have : vstep (lead ++ []) .parent = lead ++ [] := by
        rcases hlead with rfl | rfl <;> rfl
      rw [this]
      exact hL
    · rw [List.concat_eq_append] at hi hL ⊢
      rw [← List.append_assoc] at hL ⊢
      rw [vstep_parent_snoc]
      cases a with
      | normal s =>
        exact vshape_iff.mpr ⟨lead, its, hlead, rfl, fun c hc => hi c (List.mem_append_left _ hc)⟩
      | _ => exact hL
  · refine vshape_iff.mpr ⟨lead, items ++ [.normal s], hlead, (List.append_assoc ..), fun c hc => ?_⟩
    rcases List.mem_append.mp hc with hc | hc
    · exact hi c hc
    · exact List.mem_singleton.mp hc ▸ hitem

theorem fold_vshape_any (n : Bool) (p : PrefixComp) (cs L : List Comp) (hL : VShape n p L)
    (hcs : ∀ c ∈ cs, Incoming₀ n c) : VShape n p (verbatimFold L cs) :=
  verbatimFold_keeps vstep_vshape cs L hL hcs

theorem fold_vshape (n : Bool) (p : PrefixComp) (cs L : List Comp) (hL : VShape n p L)
    (hcs : ∀ c ∈ cs, Incoming n c) : VShape n p (verbatimFold L cs) :=
  fold_vshape_any n p cs L hL fun c hc => .inr (hcs c hc)

theorem body_items (n : Bool) {ts : List Tok} (hw : WFToks (wsep n) ts) : ∀ c ∈ body (!n) ts, Item n c := by
  intro c hc
  obtain ⟨s, hs, hj, rfl⟩ := mem_body.mp hc
  obtain ⟨h1, h2⟩ := hw.seg_mem s hs
  by_cases hcur : s = CUR
  · -- `.` is a component only when it is not junk, i.e. when not normalising
    subst hcur
    cases n with
    | true => cases hj
    | false => exact Or.inl ⟨rfl, rfl⟩
  · exact Or.inr (segComp_tailOKs h1 h2 hcur)

theorem base_comps {a rest : Bytes} {p : PrefixComp} (hpa : parsePrefixComp a = some (p, rest))
    (hrest : HeadOK (wsep (normOf p.raw)) rest) :
    comps .windows a = [.pfx p] ∨
      ∃ items, (∀ c ∈ items, Item (normOf p.raw) c) ∧ comps .windows a = .pfx p :: .root :: items := by
  rw [comps_of_parse hpa]
  cases hr : rest with
  | nil => exact Or.inl rfl
  | cons x t =>
    have hx : wsep (normOf p.raw) x = true := by
      rw [hr] at hrest
      exact hrest
    have hw := WFToks_toks (wsep (normOf p.raw)) (x :: t)
    rw [toks_cons_sep t hx] at hw ⊢
    rw [compsT_true_cons]
    exact Or.inr ⟨_, body_items _ hw.2, rfl⟩

theorem base_vshape {a rest : Bytes} {p : PrefixComp} (hpa : parsePrefixComp a = some (p, rest))
    (hrest : HeadOK (wsep (normOf p.raw)) rest) :
    VShape (normOf p.raw) p (comps .windows a) := by
  rcases base_comps hpa hrest with h | ⟨items, hi, h⟩
  · rw [h]
    exact .bare [] (fun _ hc => nomatch hc)
  · rw [h]
    exact .rooted items hi

theorem arg_incoming_any (n : Bool) (q : Bytes) (hq : C16.pfxStart q = false) :
    ∀ c ∈ comps .windows q, Incoming₀ n c := by
  rw [C16.win_comps_pf q hq]
  intro c hc
  rcases compsT_mem_wf (WFToks_toks (wsep true) q) hc with h | h | h | ⟨s, h, h1, h2, h3, h4⟩
  · exact Or.inl h
  · exact Or.inr (Or.inl h)
  · exact Or.inr (Or.inr (Or.inl h))
  · exact Or.inr (Or.inr (Or.inr ⟨s, h, .normal h1 (fun y hy => not_wsep_of_not_anySep (h2 y hy)) h3 h4⟩))

/-- **Joining onto a verbatim-prefixed base**: the components of the result are the documented
scan of the base's and the argument's components (a root resets to the prefix), root written out;
the result is the same prefix followed by nothing or a separator. -/
theorem win_push_comps_verbatim_stable (a q rest : Bytes) (p : PrefixComp)
    (hpa : parsePrefixComp a = some (p, rest)) (hs : Stable p) (hv : isVerbatimKind p.kind = true)
    (hrest : HeadOK (wsep (normOf p.raw)) rest) (hqne : q ≠ []) (hq : C16.pfxStart q = false) :
    comps .windows (push .windows a q) = withRoot (verbatimFold (comps .windows a) (comps .windows q)) ∧
    VShape (normOf p.raw) p (verbatimFold (comps .windows a) (comps .windows q)) ∧
    ∃ rest', push .windows a q = p.raw ++ rest' ∧ HeadOK (wsep (normOf p.raw)) rest' ∧
      parsePrefixComp (push .windows a q) = some (p, rest') := by
  have hbytes : push .windows a q =
      verbatimRender false (verbatimFold (comps .windows a) (comps .windows q)) :=
    C08.windowsPush_verbatim hqne (Win.prefixOf_none_of_pf q hq)
      ((baseIsVerbatim_of_prefixOf (prefixOf_of_comp hpa)).trans hv)
  have hshape := fold_vshape_any (normOf p.raw) p (comps .windows q) (comps .windows a)
    (base_vshape hpa hrest) (arg_incoming_any _ q hq)
  obtain ⟨h1, rest', h2, h3, h4⟩ := render_parse_strong hs hv _ hshape
  rw [hbytes]
  exact ⟨h1, hshape, rest', h2, h3, by rw [h2]; exact h4⟩

theorem win_push_comps_verbatim (a q rest : Bytes) (p : PrefixComp)
    (hpa : parsePrefixComp a = some (p, rest)) (hc : Complete p.kind) (hv : isVerbatimKind p.kind = true)
    (hrest : HeadOK (wsep (normOf p.raw)) rest)
    (hqne : q ≠ []) (hq : C16.pfxStart q = false) (hrel : startsWithSep q = false) :
    comps .windows (push .windows a q) = withRoot (verbatimFold (comps .windows a) (comps .windows q)) ∧
    VShape (normOf p.raw) p (verbatimFold (comps .windows a) (comps .windows q)) ∧
    ∃ rest', push .windows a q = p.raw ++ rest' ∧ parsePrefixComp (push .windows a q) = some (p, rest') := by
  obtain ⟨h1, h2, rest', h3, _, h4⟩ :=
    win_push_comps_verbatim_stable a q rest p hpa (stable_of_complete hpa hc) hv hrest hqne hq
  exact ⟨h1, h2, rest', h3, h4⟩

/-- the scan never removes the prefix or the root -/
theorem fold_keeps_prefix_root (n : Bool) (p : PrefixComp) (cs L : List Comp) (hL : VShape n p L)
    (hcs : ∀ c ∈ cs, Incoming n c) :
    (verbatimFold L cs).head? = some (.pfx p) ∧
    (L.take 2 = [.pfx p, .root] → (verbatimFold L cs).take 2 = [.pfx p, .root]) := by
  -- no root comes in, so the scan is the fold of `normalize`, which leaves what is no name at the bottom of the stack
  have hroot : Comp.root ∉ cs := fun hr => by
    rcases hcs _ hr with h | h | ⟨s, h, _⟩ <;> cases h
  rw [verbatimFold_eq_normFold cs L hroot]
  cases hL with
  | bare items hi =>
    refine ⟨normFold_head rfl cs items, fun h2 => ?_⟩
    -- `L.take 2 = [pfx, root]` forces the first item to be a root: impossible for an item
    cases items with
    | nil => cases h2
    | cons c t => exact absurd (List.cons.inj (List.cons.inj h2).2).1 (hi c (List.mem_cons_self ..)).ne_root
  | rooted items hi =>
    rw [normFold_cons_head rfl, normFold_cons_head rfl]
    exact ⟨rfl, fun _ => rfl⟩

-- `\\?\C:\a` + `b\..\.\c` = `\\?\C:\a\c`: the base's prefix, the scan, its rendering

example : parsePrefixComp [92, 92, 63, 92, 67, 58, 92, 97] = some (⟨[92, 92, 63, 92, 67, 58], .verbatimDisk 67⟩, [92, 97]) := by
  decide +kernel
example : verbatimFold [.pfx ⟨[92, 92, 63, 92, 67, 58], .verbatimDisk 67⟩, .root, .normal [97]]
    [.normal [98], .parent, .cur, .normal [99]] =
    [.pfx ⟨[92, 92, 63, 92, 67, 58], .verbatimDisk 67⟩, .root, .normal [97], .normal [99]] := by decide +kernel
example : verbatimRender false [.pfx ⟨[92, 92, 63, 92, 67, 58], .verbatimDisk 67⟩, .root, .normal [97], .normal [99]] =
    [92, 92, 63, 92, 67, 58, 92, 97, 92, 99] := by decide +kernel

end TP.C08c

/-! ## a ROOTED argument joined onto a verbatim-prefixed base

Its root resets the buffer to the prefix (followed by the root), and the scan goes on from there — "a root
resetting to the prefix" of the documented rule. -/

namespace TP.C08d

open TP.Win TP.JoinRules TP.C08c

/-- **Joining any prefix-free argument — rooted or relative — onto a verbatim-prefixed base**:
the components of the result are the documented scan of the base's and the argument's components
(a root resets to the prefix), root written out; the prefix is kept. -/
theorem win_push_comps_verbatim_any (a q rest : Bytes) (p : PrefixComp)
    (hpa : parsePrefixComp a = some (p, rest)) (hc : Complete p.kind) (hv : isVerbatimKind p.kind = true)
    (hrest : HeadOK (wsep (normOf p.raw)) rest)
    (hqne : q ≠ []) (hq : C16.pfxStart q = false) :
    comps .windows (push .windows a q) = withRoot (verbatimFold (comps .windows a) (comps .windows q)) ∧
    VShape (normOf p.raw) p (verbatimFold (comps .windows a) (comps .windows q)) ∧
    ∃ rest', push .windows a q = p.raw ++ rest' ∧ parsePrefixComp (push .windows a q) = some (p, rest') := by
  obtain ⟨h1, h2, rest', h3, _, h4⟩ :=
    win_push_comps_verbatim_stable a q rest p hpa (stable_of_complete hpa hc) hv hrest hqne hq
  exact ⟨h1, h2, rest', h3, h4⟩

/-- in particular a rooted argument replaces everything after the prefix: the result is the
prefix, a root, and the scan of the argument's remaining components from there -/
theorem win_push_rooted_onto_verbatim (a q rest : Bytes) (p : PrefixComp) (t : List Comp)
    (hpa : parsePrefixComp a = some (p, rest)) (hc : Complete p.kind) (hv : isVerbatimKind p.kind = true)
    (hrest : HeadOK (wsep (normOf p.raw)) rest) (hqne : q ≠ []) (hq : C16.pfxStart q = false)
    (hroot : comps .windows q = .root :: t) :
    comps .windows (push .windows a q) = withRoot (verbatimFold [.pfx p, .root] t) := by
  -- the root keeps the first component of the buffer, which is the prefix
  rw [(win_push_comps_verbatim_any a q rest p hpa hc hv hrest hqne hq).1, hroot, comps_of_parse hpa]
  rfl

end TP.C08d

/-! ## a verbatim prefix that is stable but not complete

`win_push_comps_verbatim_stable` asks for `Win.Stable p` only; here it is instantiated for the one incomplete
shape that is stable (Props/C02c): `\\?\UNC\server\`, a verbatim-UNC prefix with an empty share whose separator
is already inside the prefix.  In particular the first name of the argument does NOT become the share (seed
C04r10 made it so).  This is the Lean counterpart of the oracles' wider "well-formed base"
(`spec::win_stable_prefix`, DESIGN §2.3). -/

namespace TP.C08e

open TP.JoinRules TP.Win TP.C08c

/-- `hrest` says more than `hro`: after a verbatim disk prefix `RestOK` is `True`, but the buffer has the
shape `Win.VShape` only when nothing or a separator follows the prefix — `\\?\C:x` is left out.  (`hro`
itself follows from `hpa`: `Win.restOK_of_parse`.) -/
theorem win_push_comps_verbatim_of_stable (a q rest : Bytes) (p : PrefixComp)
    (hpa : parsePrefixComp a = some (p, rest)) (hs : Stable p) (hro : RestOK p rest) (hv : isVerbatimKind p.kind = true)
    (hrest : HeadOK (wsep (normOf p.raw)) rest)
    (hqne : q ≠ []) (hq : C16.pfxStart q = false) (hrel : startsWithSep q = false) :
    comps .windows (push .windows a q) = withRoot (verbatimFold (comps .windows a) (comps .windows q)) ∧
    VShape (normOf p.raw) p (verbatimFold (comps .windows a) (comps .windows q)) ∧
    ∃ rest', push .windows a q = p.raw ++ rest' ∧ parsePrefixComp (push .windows a q) = some (p, rest') := by
  obtain ⟨h1, h2, rest', h3, _, h4⟩ := win_push_comps_verbatim_stable a q rest p hpa hs hv hrest hqne hq
  exact ⟨h1, h2, rest', h3, h4⟩

/-- **Joining onto `\\?\UNC\server\`** (empty share, the separator inside the prefix): the documented scan, the same
prefix afterwards -/
theorem win_push_comps_verbatim_noshare (a q rest sv : Bytes) (p : PrefixComp)
    (hpa : parsePrefixComp a = some (p, rest)) (hk : p.kind = .verbatimUNC sv [])
    (hlen : p.raw.length = 8 + sv.length + 1)
    (hrest : HeadOK (wsep (normOf p.raw)) rest)
    (hqne : q ≠ []) (hq : C16.pfxStart q = false) (hrel : startsWithSep q = false) :
    comps .windows (push .windows a q) = withRoot (verbatimFold (comps .windows a) (comps .windows q)) ∧
    VShape (normOf p.raw) p (verbatimFold (comps .windows a) (comps .windows q)) ∧
    ∃ rest', push .windows a q = p.raw ++ rest' ∧ parsePrefixComp (push .windows a q) = some (p, rest') :=
  win_push_comps_verbatim_of_stable a q rest p hpa (stable_verbatimUNC_noshare_sep hpa hk hlen)
    (restOK_of_headOK fun _ => hrest) (by rw [hk]; rfl) hrest hqne hq hrel

/-! non-vacuity: the bytes the join writes, `\\?\UNC\s\` `\` `a` (the driver's `push` line for this base is compared with the
crate on every run), still carry the prefix `VerbatimUNC("s", "")`; `\a` is the body -/
example : parsePrefix [92, 92, 63, 92, 85, 78, 67, 92, 115, 92, 92, 97] = some (.verbatimUNC [115] [], [92, 97]) := by decide +kernel

end TP.C08e
