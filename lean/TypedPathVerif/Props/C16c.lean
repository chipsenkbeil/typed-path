/-
Props/C16c.lean — C16 continued: Windows → Unix for paths WITH a prefix.

"Converting a Windows path to Unix drops the prefix; a rooted or non-disk-prefixed Windows path
becomes a rooted Unix path; every other component keeps its kind and name."  Proved here for
every Windows path with a complete non-verbatim prefix (disk, device namespace, UNC with share):

* disk prefix: the Unix result has exactly the components that follow the prefix
  (`C:\a\b` → `/a/b`, `C:a\b` → `a/b`);
* device-namespace / UNC prefix: the result is rooted and has the components that follow the
  prefix (`\\s\h\a` → `/a`, `\\s\h` → `/`).

`conv_w2u_of_parse` is the statement for a prefix of any kind, in terms of what follows it; Props/C16f applies it
to verbatim prefixes.
-/
import TypedPathVerif.Props.C16
import TypedPathVerif.Lemmas.WinStable

namespace TP.C16c

open TP.JoinRules

/-- what follows the prefix reads like an ordinary path: always when the marker is not exactly `\\?\`,
and under the exact marker when there is no `/` and no `.` segment -/
theorem compsT_of_port {n : Bool} {rest : Bytes}
    (hport : n = false → (∀ y ∈ rest, y ≠ SLASH) ∧ ∀ s, Tok.seg s ∈ toks (wsep true) rest → s ≠ CUR) :
    compsT (!n) true (toks (wsep n) rest) = compsT false true (toks (wsep true) rest) := by
  cases n with
  | true => rfl
  | false =>
    obtain ⟨h1, h2⟩ := hport rfl
    rw [toks_congr (wsep false) (wsep true) rest (fun y hy => by simp [wsep, h1 y hy])]
    exact compsT_flag_irrelevant _ h2

theorem convStep_pfx (p : PrefixComp) :
    ((∀ d, p.kind ≠ .disk d) → convStep .unix [] (.pfx p) = [SLASH]) ∧
    (∀ d, p.kind = .disk d → convStep .unix [] (.pfx p) = []) := by
  constructor
  · intro hnd
    cases hk : p.kind with
    | disk d => exact absurd hk (hnd d)
    | _ => simp [convStep, convPiece, Comp.isRoot, hk, push, unixPush_nil_left, Enc.sepByte]
  · intro d hk
    simp [convStep, convPiece, Comp.isRoot, hk]

/-- **Windows → Unix with a prefix** of any kind.  What follows a prefix other than `X:` is
nothing or a separator; under the exact marker `\\?\` the rest has no `/` and no `.` segment. -/
theorem conv_w2u_of_parse (b rest : Bytes) (p : PrefixComp)
    (hp : parsePrefixComp b = some (p, rest))
    (hhead : (∀ d, p.kind ≠ .disk d) → Win.HeadOK (wsep (Win.normOf p.raw)) rest)
    (hport : Win.normOf p.raw = false →
      (∀ y ∈ rest, y ≠ SLASH) ∧ ∀ s, Tok.seg s ∈ toks (wsep true) rest → s ≠ CUR) :
    comps .windows b = .pfx p :: compsT false true (toks (wsep true) rest) ∧
    ((∀ d, p.kind ≠ .disk d) →
      comps .unix (withEncoding .windows .unix b) =
        if (compsT false true (toks (wsep true) rest)).head? = some .root
        then compsT false true (toks (wsep true) rest) else .root :: compsT false true (toks (wsep true) rest)) ∧
    (∀ d, p.kind = .disk d →
      comps .unix (withEncoding .windows .unix b) = compsT false true (toks (wsep true) rest)) := by
  have hcb : comps .windows b = .pfx p :: compsT false true (toks (wsep true) rest) := by
    rw [comps_of_parse hp, compsT_of_port hport]
  refine ⟨hcb, ?_⟩
  rw [withEncoding_ne (by decide), hcb, convFold_cons]
  constructor
  · intro hnd
    rw [(convStep_pfx p).1 hnd]
    exact C16.conv_compsT_rooted rest (Win.headOK_anySep (hhead hnd))
  · intro d hk
    rw [(convStep_pfx p).2 d hk]
    exact C16.conv_compsT rest

theorem hyps_of_complete {b rest : Bytes} {p : PrefixComp}
    (hp : parsePrefixComp b = some (p, rest)) (hc : Win.Complete p.kind) (hnv : isVerbatimKind p.kind = false) :
    ((∀ d, p.kind ≠ .disk d) → Win.HeadOK (wsep (Win.normOf p.raw)) rest) ∧
    (Win.normOf p.raw = false →
      (∀ y ∈ rest, y ≠ SLASH) ∧ ∀ s, Tok.seg s ∈ toks (wsep true) rest → s ≠ CUR) := by
  rw [Win.normOf_raw_of_complete hp hc hnv]
  exact ⟨Win.headOK_of_not_disk hp hc hnv, nofun⟩

/-- **Windows → Unix with a prefix.**  `T` is what follows the prefix component. -/
theorem conv_w2u_prefixed (b rest : Bytes) (p : PrefixComp)
    (hp : parsePrefixComp b = some (p, rest)) (hc : Win.Complete p.kind) (hnv : isVerbatimKind p.kind = false) :
    ∃ T, comps .windows b = .pfx p :: T ∧
      comps .unix (withEncoding .windows .unix b) =
        (match p.kind with
         | .disk _ => T
         | _ => if T.head? = some .root then T else .root :: T) := by
  obtain ⟨h1, h2, h3⟩ := conv_w2u_of_parse b rest p hp (hyps_of_complete hp hc hnv).1 (hyps_of_complete hp hc hnv).2
  refine ⟨_, h1, ?_⟩
  cases hk : p.kind with
  | disk d => exact h3 d hk
  | _ => exact h2 (fun d hd => by rw [hk] at hd; cases hd)

-- `C:\a\b` ↦ `/a/b`, `\\s\h\a` ↦ `/a`, `C:a` ↦ `a`

example : withEncoding .windows .unix [67, 58, 92, 97, 92, 98] = [47, 97, 47, 98] := by
  unfold withEncoding; rw [C03.comps_new_closed]; decide +kernel
example : withEncoding .windows .unix [92, 92, 115, 92, 104, 92, 97] = [47, 97] := by
  unfold withEncoding; rw [C03.comps_new_closed]; decide +kernel
example : withEncoding .windows .unix [67, 58, 97] = [97] := by
  unfold withEncoding; rw [C03.comps_new_closed]; decide +kernel

end TP.C16c
