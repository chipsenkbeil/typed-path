/-
Props/C05.lean — Equality, ordering and hashing of paths are mutually coherent.

The model's comparisons are what `#[derive(Ord)]` and `Iterator::cmp` compute.  Each is shown equal to
a lexicographic combination of `cmpNat` / `cmpBytes` on a key (`pkey`, `ckey`), so the order laws come
from Lemmas/Order by pulling back along the key.  `Comp.norm` (a prefix by its parsed kind only) is
what the keys keep of a component, and what `==`, `cmp = Equal` and `hashSpec` all depend on.
-/
import TypedPathVerif.Lemmas.Order
import TypedPathVerif.Spec.HashSpec
import TypedPathVerif.Props.C03
import TypedPathVerif.Generated.Api

namespace TP.C05

def cmpByte (a b : UInt8) : Ordering := cmpNat a.toNat b.toNat

theorem cmpBytes_eq_lex : ∀ (a b : Bytes), cmpBytes a b = lexCmp cmpByte a b
  | [], [] => rfl
  | [], _ :: _ => rfl
  | _ :: _, [] => rfl
  | x :: xs, y :: ys => by
    simp only [cmpBytes, lexCmp, cmpByte, cmpNat, cmpBytes_eq_lex xs ys, UInt8.lt_iff_toNat_lt]
    split
    · rfl
    · split <;> rfl

theorem isOrd_cmpByte : IsOrd cmpByte := isOrd_comap isOrd_cmpNat UInt8.toNat

theorem cmpByte_eq_iff (a b : UInt8) : cmpByte a b = .eq ↔ a = b := by
  unfold cmpByte
  rw [cmpNat_eq_iff]
  exact ⟨fun h => UInt8.toNat_inj.mp h, fun h => by rw [h]⟩

theorem isOrd_cmpBytes : IsOrd cmpBytes := (isOrd_lexCmp isOrd_cmpByte).of_eq cmpBytes_eq_lex

theorem cmpBytes_eq_iff (a b : Bytes) : cmpBytes a b = .eq ↔ a = b := by
  rw [cmpBytes_eq_lex, lexCmp_eq_iff (f := id) cmpByte_eq_iff, List.map_id, List.map_id]

/-- key of a prefix kind: declaration index, then the payloads -/
def pkey : WPrefix → Nat × Bytes × Bytes
  | .verbatim a => (0, a, [])
  | .verbatimUNC a b => (1, a, b)
  | .verbatimDisk d => (2, [d], [])
  | .deviceNS a => (3, a, [])
  | .unc a b => (4, a, b)
  | .disk d => (5, [d], [])

def keyCmp (x y : Nat × Bytes × Bytes) : Ordering :=
  (cmpNat x.1 y.1).then ((cmpBytes x.2.1 y.2.1).then (cmpBytes x.2.2 y.2.2))

theorem isOrd_keyCmp : IsOrd keyCmp :=
  isOrd_then isOrd_cmpNat (isOrd_then isOrd_cmpBytes isOrd_cmpBytes)

theorem then_eq_right (o : Ordering) : o.then .eq = o := Ordering.then_eq
theorem lt_then (o : Ordering) : Ordering.lt.then o = .lt := rfl
theorem gt_then (o : Ordering) : Ordering.gt.then o = .gt := rfl
theorem eq_then (o : Ordering) : Ordering.eq.then o = o := rfl

theorem cmpBytes_single (a b : UInt8) : cmpBytes [a] [b] = cmpNat a.toNat b.toNat := by
  simp only [cmpBytes, cmpNat, UInt8.lt_iff_toNat_lt]

/-- Off the diagonal both sides compute to the comparison of the two declaration indices.  On it, a kind
with one payload compares the empty second payload of its key `.eq` (`then_eq_right`), and a drive
letter is compared as a one-byte string. -/
theorem wprefix_cmp_key (x y : WPrefix) : x.cmp y = keyCmp (pkey x) (pkey y) := by
  cases x <;> cases y
  case verbatim.verbatim | deviceNS.deviceNS => exact (then_eq_right _).symm
  case verbatimDisk.verbatimDisk | disk.disk => exact ((then_eq_right _).trans (cmpBytes_single _ _)).symm
  all_goals rfl

theorem isOrd_wprefix : IsOrd WPrefix.cmp := (isOrd_comap isOrd_keyCmp pkey).of_eq wprefix_cmp_key

theorem keyCmp_eq_iff (x y : Nat × Bytes × Bytes) : keyCmp x y = .eq ↔ x = y := by
  simp only [keyCmp, Ordering.then_eq_eq, cmpNat_eq_iff, cmpBytes_eq_iff, Prod.ext_iff]

def unpkey : Nat × Bytes × Bytes → WPrefix
  | (0, a, _) => .verbatim a
  | (1, a, b) => .verbatimUNC a b
  | (2, d :: _, _) => .verbatimDisk d
  | (3, a, _) => .deviceNS a
  | (4, a, b) => .unc a b
  | (_, d :: _, _) => .disk d
  | _ => .verbatim []

theorem unpkey_pkey (k : WPrefix) : unpkey (pkey k) = k := by
  cases k <;> rfl

/-- key of a component: kind index, prefix key, name -/
def ckey : Comp → Nat × (Nat × Bytes × Bytes) × Bytes
  | .pfx p => (0, pkey p.kind, [])
  | .root => (1, (0, [], []), [])
  | .cur => (2, (0, [], []), [])
  | .parent => (3, (0, [], []), [])
  | .normal s => (4, (0, [], []), s)

def ckeyCmp (x y : Nat × (Nat × Bytes × Bytes) × Bytes) : Ordering :=
  (cmpNat x.1 y.1).then ((keyCmp x.2.1 y.2.1).then (cmpBytes x.2.2 y.2.2))

theorem isOrd_ckeyCmp : IsOrd ckeyCmp := isOrd_then isOrd_cmpNat (isOrd_then isOrd_keyCmp isOrd_cmpBytes)

/-- two prefixes compare by their keys, the empty name slot of both comparing `.eq`; every other pair
computes to the same answer on both sides -/
theorem comp_cmp_key (x y : Comp) : x.cmp y = ckeyCmp (ckey x) (ckey y) := by
  cases x <;> cases y
  case pfx.pfx p q => exact (wprefix_cmp_key _ _).trans (then_eq_right _).symm
  all_goals rfl

theorem isOrd_comp : IsOrd Comp.cmp := (isOrd_comap isOrd_ckeyCmp ckey).of_eq comp_cmp_key

theorem cmpList_eq_lex : ∀ (a b : List Comp), cmpList a b = lexCmp Comp.cmp a b
  | [], [] => rfl
  | [], _ :: _ => rfl
  | _ :: _, [] => rfl
  | x :: xs, y :: ys => by simp only [cmpList, lexCmp, cmpList_eq_lex xs ys]

theorem isOrd_cmpList : IsOrd cmpList := (isOrd_lexCmp isOrd_comp).of_eq cmpList_eq_lex

/-- a component as equality sees it: the prefix by its parsed kind only -/
def Comp.norm : Comp → Comp
  | .pfx p => .pfx ⟨[], p.kind⟩
  | c => c

theorem eqv_iff_norm (x y : Comp) : x.eqv y = true ↔ Comp.norm x = Comp.norm y := by
  cases x <;> cases y <;> simp [Comp.eqv, Comp.norm]

theorem eqvList_iff : ∀ (a b : List Comp), eqvList a b = true ↔ a.map Comp.norm = b.map Comp.norm
  | [], [] => by simp [eqvList]
  | [], _ :: _ => by simp [eqvList]
  | _ :: _, [] => by simp [eqvList]
  | x :: xs, y :: ys => by
    simp only [eqvList, Bool.and_eq_true, eqv_iff_norm, eqvList_iff xs ys, List.map_cons, List.cons.injEq]

/-- Two paths are equal exactly when their component sequences are equal (the prefix being
compared by kind and payload, not by spelling). -/
theorem eq_iff_comps (e : Enc) (a b : Bytes) :
    pathEq e a b = true ↔ (comps e a).map Comp.norm = (comps e b).map Comp.norm :=
  eqvList_iff _ _

theorem norm_id_of_noPfx : ∀ {l : List Comp}, (∀ c ∈ l, c.isPfx = false) → l.map Comp.norm = l
  | [], _ => rfl
  | c :: l, h => by
    have hc : Comp.norm c = c := by
      cases c with
      | pfx p => cases h (.pfx p) (List.mem_cons_self ..)
      | _ => rfl
    rw [List.map_cons, hc, norm_id_of_noPfx (fun x hx => h x (List.mem_cons_of_mem _ hx))]

theorem ckeyCmp_eq_iff (x y : Nat × (Nat × Bytes × Bytes) × Bytes) : ckeyCmp x y = .eq ↔ x = y := by
  simp only [ckeyCmp, Ordering.then_eq_eq, cmpNat_eq_iff, keyCmp_eq_iff, cmpBytes_eq_iff, Prod.ext_iff]

def unckey : Nat × (Nat × Bytes × Bytes) × Bytes → Comp
  | (0, k, _) => .pfx ⟨[], unpkey k⟩
  | (1, _, _) => .root
  | (2, _, _) => .cur
  | (3, _, _) => .parent
  | (_, _, s) => .normal s

theorem unckey_ckey (x : Comp) : unckey (ckey x) = Comp.norm x := by
  cases x with
  | pfx p => exact congrArg (fun k => Comp.pfx ⟨[], k⟩) (unpkey_pkey p.kind)
  | _ => rfl

theorem ckey_norm (x : Comp) : ckey (Comp.norm x) = ckey x := by
  cases x <;> rfl

/-- the key forgets exactly what `norm` forgets: it can be read back up to `norm`, and does not see
the spelling of a prefix -/
theorem comp_cmp_eq_iff (x y : Comp) : x.cmp y = .eq ↔ Comp.norm x = Comp.norm y := by
  rw [comp_cmp_key, ckeyCmp_eq_iff]
  exact ⟨fun h => by rw [← unckey_ckey, h, unckey_ckey], fun h => by rw [← ckey_norm x, h, ckey_norm]⟩

theorem cmpList_eq_iff (a b : List Comp) : cmpList a b = .eq ↔ a.map Comp.norm = b.map Comp.norm := by
  rw [cmpList_eq_lex]
  exact lexCmp_eq_iff comp_cmp_eq_iff a b

/-- Ordering says `Equal` exactly for equal paths. -/
theorem cmp_equal_iff_eq (e : Enc) (a b : Bytes) : pathCmp e a b = .eq ↔ pathEq e a b = true := by
  rw [eq_iff_comps]; exact cmpList_eq_iff _ _

/-- Ordering is lexicographic on components … -/
theorem cmp_lexicographic (e : Enc) (a b : Bytes) :
    pathCmp e a b = lexCmp Comp.cmp (comps e a) (comps e b) := cmpList_eq_lex _ _

/-- … and a total order of paths up to `==`: swapping the arguments swaps the answer, it is
transitive, and `Equal` (which `cmp_equal_iff_eq` ties to `==`) is a congruence. -/
theorem cmp_total_order (e : Enc) : IsOrd (pathCmp e) := isOrd_comap isOrd_cmpList (comps e)

theorem cmp_transitive (e : Enc) (a b d : Bytes) (h1 : pathCmp e a b ≠ .gt) (h2 : pathCmp e b d ≠ .gt) :
    pathCmp e a d ≠ .gt := (cmp_total_order e).trans_le a b d h1 h2

/-! ### hashing

`hashSpec` says what is fed to the hasher in terms of the *components*: the derived hash of
the parsed prefix kind, then the text of every component except prefix and root, then the
number of bytes written.  `lean/Driver.lean` prints it next to the byte-level model of the
Rust loop (`hashChunks`) and the harness compares both with the recorded `Hasher::write`
calls of the implementation on every run. -/

theorem hashTexts_norm (e : Enc) : ∀ (cs : List Comp), hashTexts e (cs.map Comp.norm) = hashTexts e cs
  | [] => rfl
  | c :: r => by cases c <;> simp [hashTexts, Comp.norm, hashTexts_norm e r, Comp.bytes]

theorem hashPrefix_norm : ∀ (cs : List Comp), hashPrefix (cs.map Comp.norm) = hashPrefix cs
  | [] => rfl
  | c :: r => by cases c <;> simp [hashPrefix, Comp.norm]

/-- Equal paths feed identical data — the same sequence of `write` calls — to any hasher. -/
theorem eq_implies_same_hash (e : Enc) (a b : Bytes) (h : pathEq e a b = true) :
    hashSpec e a = hashSpec e b := by
  have hn := (eq_iff_comps e a b).mp h
  unfold hashSpec
  simp only
  rw [← hashTexts_norm e (comps e a), ← hashPrefix_norm (comps e a), hn, hashTexts_norm, hashPrefix_norm]

example : pathEq .windows [67, 58, 92, 97] [99, 58, 47, 97, 47, 46] = true := by
  unfold pathEq; rw [C03.comps_new_closed, C03.comps_new_closed]; decide +kernel
example : pathCmp .unix [97, 47, 98] [97, 47, 99] = .lt := by
  unfold pathCmp; rw [C03.comps_new_closed, C03.comps_new_closed]; decide +kernel
example : hashSpec .unix [47, 97, 47, 46, 47, 98] = [[97], [98], usizeChunk 2] := by
  unfold hashSpec; rw [C03.comps_new_closed]; decide +kernel

/-- the mixed-type comparison impls the oracle runs in both operand orders (harness/src/orc_a.rs,
clause `mixed-type-impls-agree`: the 16 `mixed_all!` checks for the byte family and again for the
UTF-8 family) -/
def coveredCmpPairs : List String :=
  ["non_utf8 impl_cmp PathBuf<T>,Path<T>",
   "non_utf8 impl_cmp PathBuf<T>,&Path<T>",
   "non_utf8 impl_cmp Cow<Path<T>>,Path<T>",
   "non_utf8 impl_cmp Cow<Path<T>>,&Path<T>",
   "non_utf8 impl_cmp Cow<Path<T>>,PathBuf<T>",
   "non_utf8 impl_cmp_bytes PathBuf<T>,[u8]",
   "non_utf8 impl_cmp_bytes PathBuf<T>,&[u8]",
   "non_utf8 impl_cmp_bytes PathBuf<T>,Cow<[u8]>",
   "non_utf8 impl_cmp_bytes PathBuf<T>,Vec<u8>",
   "non_utf8 impl_cmp_bytes Path<T>,[u8]",
   "non_utf8 impl_cmp_bytes Path<T>,&[u8]",
   "non_utf8 impl_cmp_bytes Path<T>,Cow<[u8]>",
   "non_utf8 impl_cmp_bytes Path<T>,Vec<u8>",
   "non_utf8 impl_cmp_bytes &Path<T>,[u8]",
   "non_utf8 impl_cmp_bytes &Path<T>,Cow<[u8]>",
   "non_utf8 impl_cmp_bytes &Path<T>,Vec<u8>",
   "utf8 impl_cmp Utf8PathBuf<T>,Utf8Path<T>",
   "utf8 impl_cmp Utf8PathBuf<T>,&Utf8Path<T>",
   "utf8 impl_cmp Cow<Utf8Path<T>>,Utf8Path<T>",
   "utf8 impl_cmp Cow<Utf8Path<T>>,&Utf8Path<T>",
   "utf8 impl_cmp Cow<Utf8Path<T>>,Utf8PathBuf<T>",
   "utf8 impl_cmp_bytes Utf8PathBuf<T>,str",
   "utf8 impl_cmp_bytes Utf8PathBuf<T>,&str",
   "utf8 impl_cmp_bytes Utf8PathBuf<T>,Cow<str>",
   "utf8 impl_cmp_bytes Utf8PathBuf<T>,String",
   "utf8 impl_cmp_bytes Utf8Path<T>,str",
   "utf8 impl_cmp_bytes Utf8Path<T>,&str",
   "utf8 impl_cmp_bytes Utf8Path<T>,Cow<str>",
   "utf8 impl_cmp_bytes Utf8Path<T>,String",
   "utf8 impl_cmp_bytes &Utf8Path<T>,str",
   "utf8 impl_cmp_bytes &Utf8Path<T>,Cow<str>",
   "utf8 impl_cmp_bytes &Utf8Path<T>,String"]

/-- the source generates exactly these mixed-type impls (regenerated table, gen/api.py): a
new `impl_cmp!` pair that the oracle does not compare breaks this -/
theorem cmp_pairs_covered : Generated.cmpPairs = coveredCmpPairs := rfl

end TP.C05
