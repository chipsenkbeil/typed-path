/-
Props/C06.lean — Unix path queries return what std::path returns.

`StdSpec.comps` is the reference (compared with real std on every run).  parent: Props/C09
(`unix_parent_vs_std`), byte-exact with ancestors in Props/C06b; file name, starts_with, ends_with,
equality, ordering: here; stem and extension split the file name as Props/C12 says
(`stem_ext_split`).  strip_prefix succeeds exactly when std's does and returns the right *components*
(`C10.unix_strip_comps`) but keeps the path's trailing separators in the remainder — known finding
K1, proved as a witness.
-/
import TypedPathVerif.Props.C10
import TypedPathVerif.Props.C12

namespace TP.C06

/-- file_name is std's: the last of std's components when it is a normal name -/
theorem unix_file_name_vs_std (b s : Bytes) :
    fileName .unix b = some s ↔ (StdSpec.comps b).getLast? = some (.normal s) := by
  rw [← C01.unix_front_all]; exact C12.file_name_iff_last_normal .unix b s

/-- `starts_with` is std's: the base's components are a leading run of the path's. -/
theorem unix_starts_with_vs_std (p q : Bytes) :
    startsWithP .unix p q = true ↔ StdSpec.comps q <+: StdSpec.comps p := by
  rw [C10.unix_starts_with_iff, C01.unix_front_all, C01.unix_front_all]

theorem strip_prefix_some_iff (p q : Bytes) :
    (stripPrefix .unix p q).isSome = true ↔ StdSpec.comps q <+: StdSpec.comps p := by
  rw [stripPrefix_isSome, unix_starts_with_vs_std]

/-- `ends_with` is std's: the child's components are a trailing run of the path's. -/
theorem unix_ends_with_vs_std (p q : Bytes) :
    endsWithP .unix p q = true ↔ StdSpec.comps q <:+ StdSpec.comps p := by
  rw [C10.unix_ends_with_iff, C01.unix_front_all, C01.unix_front_all]

/-- `==` is std's: equal exactly when std's component lists are equal. -/
theorem unix_eq_vs_std (a b : Bytes) : pathEq .unix a b = true ↔ StdSpec.comps a = StdSpec.comps b := by
  rw [C10.unix_eq_iff_comps, C01.unix_front_all, C01.unix_front_all]

/-- `cmp` is std's: the lexicographic order of std's component lists under the derived order
of `Component` (RootDir < CurDir < ParentDir < Normal, names as byte strings). -/
theorem unix_cmp_vs_std (a b : Bytes) :
    pathCmp .unix a b = lexCmp Comp.cmp (StdSpec.comps a) (StdSpec.comps b) := by
  rw [C05.cmp_lexicographic, C01.unix_front_all, C01.unix_front_all]

/-- K1 witness: `UnixPath("a/").strip_prefix("")` is `a/` in the model (and in the crate); std
returns `a`.  The components agree, the bytes do not. -/
theorem unix_strip_prefix_K1_witness :
    stripPrefix .unix [97, 47] [] = some [97, 47] ∧ StdSpec.comps [97, 47] = StdSpec.comps [97] := by
  constructor
  · unfold stripPrefix; rw [C03.comps_new_closed]; decide +kernel
  · decide +kernel

example : StdSpec.comps [47, 97] <+: StdSpec.comps [47, 97, 47, 47, 98] := by decide +kernel
example : ¬ (StdSpec.comps [97] <+: StdSpec.comps [47, 97]) := by decide +kernel

end TP.C06
