/-
Props/C05b.lean — C05 continued: the byte-index loop of `Encoding::hash` is the component-level
description `C05.hashSpec` (Spec/HashSpec.lean).

`hash_loop_eq_spec`: for every byte string and both encodings, the sequence of `Hasher::write`
chunks produced by the model of the Rust loop (`Model/Path.lean: hashChunks`, the `for i in
0..len` loop with `component_start`, the skip of a `.` after a separator, the final slice and
`write_usize`) equals `hashSpec`: the derived hash of the parsed prefix, the text of every
component except prefix and root, and the number of bytes written.  `HashLoop.hashBody_toks` reads
the loop on tokens; what is left here is that the token texts are the component texts.

Hence `eq_implies_same_loop_hash`: equal paths feed identical `write` sequences to any hasher — a
statement about the loop itself, not only about the specification.
-/
import TypedPathVerif.Lemmas.HashLoop
import TypedPathVerif.Props.C05
import TypedPathVerif.Lemmas.WinPush

namespace TP.C05b

open TP.HashLoop TP.C05

theorem hashTexts_segComp (e : Enc) (c : Bool) (s : Bytes) (rest : List Comp) :
    hashTexts e (segComp c s :: rest) = s :: hashTexts e rest := by
  rcases segComp_cases c s with ⟨h, rfl⟩ | ⟨h, rfl⟩ | h <;> rw [h] <;> rfl

/-- the loop's test for a `.` to skip after a separator is the parser's `junk` -/
theorem skip_eq_junk (k : Bool) (s : Bytes) : (!k && true && s == [DOT]) = junk k (.seg s) := by
  rw [Bool.and_true, Bool.beq_eq_decide_eq]
  rfl

theorem hashTexts_body (e : Enc) (k : Bool) {isSep : UInt8 → Bool} :
    ∀ (r : List Tok), WFToks isSep r → ∀ (a : Bool), (a = false → notSegHead r) →
      hashTexts e (body k r) = tokTexts (!k) a r
  | [], _, _, _ => rfl
  | .sep x :: r, hw, _, _ => by
    rw [body_cons_junk r rfl]
    exact hashTexts_body e k r hw.2 true nofun
  | .seg s :: r, hw, true, _ => by
    have ih := hashTexts_body e k r hw.2.2.2 false fun _ => hw.2.2.1
    simp only [tokTexts, skip_eq_junk]
    cases hj : junk k (.seg s) with
    | true =>
      rw [body_cons_junk r hj, ih]
      rfl
    | false =>
      rw [body_cons_seg r hj, hashTexts_segComp, ih]
      rfl
  | .seg _ :: _, _, false, ha => (ha rfl).elim

theorem hashTexts_compsT (e : Enc) (k : Bool) {isSep : UInt8 → Bool} (ts : List Tok) (hw : WFToks isSep ts) :
    hashTexts e (compsT k true ts) = tokTexts (!k) false ts := by
  cases ts with
  | nil => rfl
  | cons t r =>
    rw [compsT_true_cons]
    have hwr := WFToks_suffix [_] hw
    cases t with
    | sep x =>
      simp only [headComp, hashTexts, tokTexts]
      exact hashTexts_body e k r hwr true (fun h => by cases h)
    | seg s =>
      simp only [headComp, tokTexts, Bool.and_false, Bool.false_and, Bool.false_eq_true, if_false,
        List.singleton_append]
      rw [hashTexts_segComp, hashTexts_body e k r hwr false (fun _ => hw.2.2.1)]

theorem hashTexts_pfx (e : Enc) (p : PrefixComp) (rest : List Comp) :
    hashTexts e (.pfx p :: rest) = hashTexts e rest := rfl

theorem hashPrefix_compsT (k : Bool) (ts : List Tok) : hashPrefix (compsT k true ts) = [] := by
  cases ts with
  | nil => rfl
  | cons t r =>
    rw [compsT_true_cons]
    cases t with
    | sep x => rfl
    | seg s =>
      simp only [headComp, segComp]
      split <;> (try split) <;> rfl

/-- `dotSep` is the set the loop tests behind a `.` (on Windows always both separators, also where
only `\` splits); `hsame`: it is the splitting set whenever `.` is skipped at all. -/
theorem hashBody_spec (e : Enc) (k : Bool) {isSep dotSep : UInt8 → Bool} (hdot : isSep DOT = false)
    (hsame : (!k) = true → ∀ y, dotSep y = isSep y) (rest : Bytes) (pre : List Bytes) :
    hashBody isSep (!k) dotSep rest pre =
      pre ++ hashTexts e (compsT k true (toks isSep rest)) ++
        [usizeChunk ((hashTexts e (compsT k true (toks isSep rest))).map List.length).sum] := by
  rw [hashBody_toks isSep (!k) dotSep rest pre hdot hsame,
    hashTexts_compsT e k (toks isSep rest) (WFToks_toks isSep rest)]
  rfl

/-- **The hash loop equals its component-level specification**, all inputs, both encodings. -/
theorem hash_loop_eq_spec (e : Enc) (b : Bytes) : hashChunks e b = hashSpec e b := by
  cases e with
  | unix =>
    unfold hashChunks hashSpec
    simp only
    rw [unix_comps_eq, hashPrefix_compsT]
    exact hashBody_spec .unix false (isSep := usep) (by decide) (fun _ _ => rfl) b []
  | windows =>
    unfold hashChunks hashSpec
    simp only
    rw [C08.wPrefix_eq, JoinRules.prefixOf]
    cases hp : parsePrefixComp b with
    | none =>
      rw [comps_of_no_prefix hp, hashPrefix_compsT]
      exact hashBody_spec .windows false (Win.wsep_dot true) (fun _ _ => rfl) b []
    | some x =>
      obtain ⟨p, rest⟩ := x
      have hn : (!startsWith b VERB) = Win.normOf p.raw := (Win.normOf_raw hp).symm
      have hdrop : b.drop p.raw.length = rest := by
        rw [← parsePrefixComp_raw hp]
        simp
      rw [comps_of_parse hp]
      simp only [Option.map_some, hdrop, hn, hashPrefix, hashTexts_pfx]
      have hsame : (!(!Win.normOf p.raw)) = true → ∀ y, anySep y = wsep (Win.normOf p.raw) y := by
        intro h y
        rw [Bool.not_not] at h
        rw [h]
        rfl
      have := hashBody_spec .windows (!Win.normOf p.raw) (Win.wsep_dot _) hsame rest
        p.kind.hashChunks
      rw [Bool.not_not] at this
      exact this

/-- Equal paths feed identical data — the same sequence of `write` calls — to any hasher: stated
for the modelled Rust loop itself. -/
theorem eq_implies_same_loop_hash (e : Enc) (a b : Bytes) (h : pathEq e a b = true) :
    hashChunks e a = hashChunks e b := by
  rw [hash_loop_eq_spec, hash_loop_eq_spec]
  exact eq_implies_same_hash e a b h

example : hashChunks .unix [47, 97, 47, 46, 47, 98] = [[97], [98], usizeChunk 2] := by decide +kernel
example : hashChunks .unix [46, 47, 97] = [[46], [97], usizeChunk 2] := by decide +kernel
example : pathEq .unix [97, 47, 47, 98, 47, 46] [97, 47, 98] = true := by
  unfold pathEq; rw [C03.comps_new_closed, C03.comps_new_closed]; decide +kernel

end TP.C05b
