/-
Props/C04.lean — Checked join never escapes, replaces or re-roots the base path.

Both encodings: the acceptance rule in declarative form (`checked_accepts_iff`,
`neverClimbs_iff_counts`), the error kind (`checked_error_first`), success = unchecked join
(`checked_ok_eq_push`).  Unix: the result's components are the base's followed by the
argument's (`unix_checked_keeps_base`).  The corresponding Windows clause is false at the known
finding K3 (`\\` + `srv`, `windows_K3_witness`); Props/C04b proves it for the classes of bases
that exclude K3.

The proofs about `checkedScan` and `neverClimbs` go by the functions' own induction principles:
one case per branch of the definition, with the branch's value already in the goal.
-/
import TypedPathVerif.Lemmas.Append

namespace TP

instance : DecidableEq (Except CheckedErr Bytes) := fun a b =>
  match a, b with
  | .ok x, .ok y => if h : x = y then isTrue (by rw [h]) else isFalse (by intro h'; cases h'; exact h rfl)
  | .error x, .error y => if h : x = y then isTrue (by rw [h]) else isFalse (by intro h'; cases h'; exact h rfl)
  | .ok _, .error _ => isFalse (by intro h; cases h)
  | .error _, .ok _ => isFalse (by intro h; cases h)

end TP

namespace TP.C04

def normals : List Comp → Nat
  | [] => 0
  | .normal _ :: r => normals r + 1
  | _ :: r => normals r

def parents : List Comp → Nat
  | [] => 0
  | .parent :: r => parents r + 1
  | _ :: r => parents r

/-- no `..` outnumbers the normal components before it (with `n` names of credit) -/
def neverClimbs : Nat → List Comp → Prop
  | _, [] => True
  | n, .parent :: cs => 0 < n ∧ neverClimbs (n - 1) cs
  | n, .normal _ :: cs => neverClimbs (n + 1) cs
  | n, _ :: cs => neverClimbs n cs

theorem forall_take_cons {α : Type} {Q : List α → Prop} (c : α) (cs : List α) :
    (∀ i, i ≤ (c :: cs).length → Q ((c :: cs).take i)) ↔ Q [] ∧ ∀ j, j ≤ cs.length → Q (c :: cs.take j) :=
  ⟨fun h => ⟨h 0 (Nat.zero_le _), fun j hj => h (j + 1) (Nat.succ_le_succ hj)⟩,
   fun h i hi => match i with
    | 0 => h.1
    | j + 1 => h.2 j (Nat.le_of_succ_le_succ hi)⟩

/-- the same, said with counts: in every initial segment the `..` never outnumber the names -/
theorem neverClimbs_iff_counts : ∀ (cs : List Comp) (n : Nat),
    neverClimbs n cs ↔ ∀ i, i ≤ cs.length → parents (cs.take i) ≤ n + normals (cs.take i) := by
  intro cs n
  -- cases follow `neverClimbs`: [], `..`, a name, anything else
  fun_induction neverClimbs n cs with
  | case1 n => exact ⟨fun _ i _ => by rw [List.take_nil]; exact Nat.zero_le _, fun _ => trivial⟩
  | case2 n cs ih =>
    -- `..`: the segment `[..]` shows that the credit is positive; then everything shifts by one
    rw [ih, forall_take_cons (Q := fun l => parents l ≤ n + normals l)]
    simp only [parents, normals, Nat.zero_le, true_and]
    constructor
    · intro ⟨_, h⟩ j hj
      have := h j hj
      omega
    · intro h
      have h0 := h 0 (Nat.zero_le _)
      rw [List.take_zero] at h0
      refine ⟨Nat.lt_of_lt_of_le (Nat.succ_pos _) h0, fun j hj => ?_⟩
      have := h j hj
      omega
  | case3 n s cs ih =>
    rw [ih, forall_take_cons (Q := fun l => parents l ≤ n + normals l)]
    simp only [parents, normals, Nat.zero_le, true_and, Nat.add_assoc, Nat.add_comm 1]
  | case4 n c cs h1 h2 ih =>
    rw [ih, forall_take_cons (Q := fun l => parents l ≤ n + normals l)]
    simp only [parents.eq_3 _ _ h1, normals.eq_3 _ _ h2, parents, normals, Nat.zero_le, true_and]

/-- every component is acceptable on its own (the count of `..` is `neverClimbs`) -/
def allPlain (e : Enc) (cs : List Comp) : Prop :=
  ∀ c ∈ cs, c.isPfx = false ∧ c ≠ .root ∧ c.isValid e = true

theorem allPlain_cons (e : Enc) (c : Comp) (cs : List Comp) :
    allPlain e (c :: cs) ↔ (c.isPfx = false ∧ c ≠ .root ∧ c.isValid e = true) ∧ allPlain e cs := by
  simp [allPlain]

theorem isValid_normal (e : Enc) (s : Bytes) :
    (Comp.normal s).isValid e = !s.any (fun b => (forbidden e).contains b) := rfl

/-- The scan accepts exactly when `p` has no prefix, no root, no normal component with a
forbidden byte, and no `..` that outnumbers the normal components before it. -/
theorem scan_none_iff (e : Enc) : ∀ (cs : List Comp) (n : Nat),
    checkedScan e n cs = none ↔ allPlain e cs ∧ neverClimbs n cs := by
  intro cs n
  -- cases follow `checkedScan`: [], prefix, root, `..` at count 0, `..` at a positive count,
  -- invalid name, valid name, `.`
  fun_induction checkedScan e n cs with
  | case1 n => simp [allPlain, neverClimbs]
  | case2 n cs p => simp [allPlain_cons, Comp.isPfx]
  | case3 n cs => simp [allPlain_cons]
  | case4 cs => simp [neverClimbs]
  | case5 n cs hn ih => simp [ih, allPlain_cons, neverClimbs, Comp.isPfx, Comp.isValid, Nat.pos_of_ne_zero hn]
  | case6 n cs s hany =>
    have hv : (Comp.normal s).isValid e = false := by
      rw [isValid_normal, hany]
      rfl
    simp [allPlain_cons, hv]
  | case7 n cs s hany ih =>
    have hv : (Comp.normal s).isValid e = true := by
      rw [isValid_normal, (Bool.not_eq_true _).mp hany]
      rfl
    simp [ih, allPlain_cons, neverClimbs, Comp.isPfx, hv]
  | case8 n cs ih => simp [ih, allPlain_cons, neverClimbs, Comp.isPfx, Comp.isValid]

/-- It succeeds exactly when the argument is acceptable, and then the result is the
unchecked join. -/
theorem checked_accepts_iff (e : Enc) (cur p r : Bytes) :
    pushChecked e cur p = .ok r ↔
      (allPlain e (comps e p) ∧ neverClimbs 0 (comps e p)) ∧ r = push e cur p := by
  unfold pushChecked
  cases hs : checkedScan e 0 (comps e p) with
  | none =>
    have := (scan_none_iff e _ 0).mp hs
    simp only [Except.ok.injEq]
    constructor
    · intro h; exact ⟨this, h.symm⟩
    · intro h; exact h.2.symm
  | some err =>
    simp only [reduceCtorEq, false_iff, not_and]
    intro h
    have := (scan_none_iff e _ 0).mpr h
    rw [hs] at this; cases this

theorem checked_ok_eq_push (e : Enc) (cur p r : Bytes) (h : pushChecked e cur p = .ok r) :
    r = push e cur p := ((checked_accepts_iff e cur p r).mp h).2

/-- what kind of component an error names -/
def errMatches (e : Enc) (n : Nat) (pre : List Comp) (c : Comp) : CheckedErr → Prop
  | .unexpectedPrefix => c.isPfx = true
  | .unexpectedRoot => c = .root
  | .invalidFilename => c.isNormal = true ∧ c.isValid e = false
  | .pathTraversal => c = .parent ∧ parents pre = n + normals pre

theorem parents_append (a b : List Comp) : parents (a ++ b) = parents a + parents b := by
  -- cases follow `parents`: [], `..`, anything else
  fun_induction parents a with
  | case1 => rw [List.nil_append, Nat.zero_add]
  | case2 r ih => rw [List.cons_append, parents, ih, Nat.add_right_comm]
  | case3 c r h ih => rw [List.cons_append, parents.eq_3 _ _ h, ih]

theorem normals_append (a b : List Comp) : normals (a ++ b) = normals a + normals b := by
  -- cases follow `normals`: [], a name, anything else
  fun_induction normals a with
  | case1 => rw [List.nil_append, Nat.zero_add]
  | case2 s r ih => rw [List.cons_append, normals, ih, Nat.add_right_comm]
  | case3 c r h ih => rw [List.cons_append, normals.eq_3 _ _ h, ih]

/-- of `n` and the components in front of the offender an error only remembers whether the `..`
have used up the names -/
theorem errMatches_congr {e : Enc} {n n' : Nat} {pre pre' : List Comp} {c : Comp} {err : CheckedErr}
    (hb : parents pre = n + normals pre → parents pre' = n' + normals pre')
    (h : errMatches e n pre c err) : errMatches e n' pre' c err := by
  cases err with
  | pathTraversal => exact ⟨h.1, hb h.2⟩
  | _ => exact h

theorem scan_error_first (e : Enc) : ∀ (cs : List Comp) (n : Nat) (err : CheckedErr),
    checkedScan e n cs = some err →
      ∃ pre c post, cs = pre ++ c :: post ∧ checkedScan e n pre = none ∧ errMatches e n pre c err := by
  intro cs n
  -- cases follow `checkedScan`: [], prefix, root, `..` at count 0, `..` at a positive count,
  -- invalid name, valid name, `.`
  fun_induction checkedScan e n cs with
  | case1 n => exact fun _ h => nomatch h
  | case2 n cs p =>
    rintro _ ⟨⟩
    exact ⟨[], .pfx p, cs, rfl, rfl, rfl⟩
  | case3 n cs =>
    rintro _ ⟨⟩
    exact ⟨[], .root, cs, rfl, rfl, rfl⟩
  | case4 cs =>
    rintro _ ⟨⟩
    exact ⟨[], .parent, cs, rfl, rfl, rfl, rfl⟩
  | case5 n cs hn ih =>
    -- a `..` that is paid for joins the accepted components in front
    intro err h
    obtain ⟨pre, c, post, rfl, h2, h3⟩ := ih err h
    refine ⟨.parent :: pre, c, post, rfl, (if_neg hn).trans h2, errMatches_congr (fun hb => ?_) h3⟩
    show parents pre + 1 = n + normals pre
    rw [hb, Nat.add_right_comm, Nat.sub_add_cancel (Nat.pos_of_ne_zero hn)]
  | case6 n cs s hany =>
    rintro _ ⟨⟩
    refine ⟨[], .normal s, cs, rfl, rfl, rfl, ?_⟩
    rw [isValid_normal, hany]
    rfl
  | case7 n cs s hany ih =>
    intro err h
    obtain ⟨pre, c, post, rfl, h2, h3⟩ := ih err h
    refine ⟨.normal s :: pre, c, post, rfl, (if_neg hany).trans h2, errMatches_congr (fun hb => ?_) h3⟩
    show parents pre = n + (normals pre + 1)
    rw [hb, Nat.add_assoc, Nat.add_comm 1]
  | case8 n cs ih =>
    intro err h
    obtain ⟨pre, c, post, rfl, h2, h3⟩ := ih err h
    exact ⟨.cur :: pre, c, post, rfl, h2, errMatches_congr id h3⟩

/-- A failure names the kind of the *first* offending component: everything before it is
acceptable, and it is a prefix / a root / an invalid name / a `..` with no name left to cancel,
according to the error. -/
theorem checked_error_first (e : Enc) (cur p : Bytes) (err : CheckedErr)
    (h : pushChecked e cur p = .error err) :
    ∃ pre c post, comps e p = pre ++ c :: post ∧ checkedScan e 0 pre = none ∧ errMatches e 0 pre c err := by
  unfold pushChecked at h
  cases hs : checkedScan e 0 (comps e p) with
  | none => simp [hs] at h
  | some err' =>
    simp only [hs, Except.error.injEq] at h
    subst h
    exact scan_error_first e _ 0 _ hs

theorem dropLeadingCur_sublist_props (e : Enc) (cs : List Comp) (n : Nat)
    (h : allPlain e cs ∧ neverClimbs n cs) :
    allPlain e (dropLeadingCur cs) ∧ neverClimbs n (dropLeadingCur cs) := by
  cases cs with
  | nil => exact h
  | cons c r =>
    cases c with
    | cur =>
      simp only [dropLeadingCur]
      exact ⟨fun c' hc' => h.1 c' (by simp [hc']), by simpa [neverClimbs] using h.2⟩
    | _ => exact h

/-- Unix: a successful checked push onto a non-empty base yields a path whose components are
exactly the base's components followed by the argument's (minus a leading `.`, which no longer
starts the path); the added components contain no root and never climb above the base. -/
theorem unix_checked_keeps_base (cur p r : Bytes) (hcur : cur ≠ [])
    (h : pushChecked .unix cur p = .ok r) :
    comps .unix r = comps .unix cur ++ dropLeadingCur (comps .unix p) ∧
    allPlain .unix (dropLeadingCur (comps .unix p)) ∧ neverClimbs 0 (dropLeadingCur (comps .unix p)) := by
  obtain ⟨hacc, rfl⟩ := (checked_accepts_iff .unix cur p r).mp h
  refine ⟨unix_push_comps cur p ?_ hcur, dropLeadingCur_sublist_props .unix _ 0 hacc⟩
  -- an accepted argument has no root, so it is relative
  exact unix_isAbsolute_false_of_no_root (fun hr => (hacc.1 .root hr).2.1 rfl)

/-- Unix: onto the empty base the result is the argument itself. -/
theorem unix_checked_empty_base (p r : Bytes) (h : pushChecked .unix [] p = .ok r) : r = p :=
  (checked_ok_eq_push .unix [] p r h).trans (unixPush_nil_left p)

/-- K3 witness: a checked join onto `\\` (whose only component is the root) succeeds with
`\\srv`, a path whose first component is a UNC prefix — the base was *not* kept. -/
theorem windows_K3_witness :
    pushChecked .windows [92, 92] [115, 114, 118] = .ok [92, 92, 115, 114, 118] ∧
    comps .windows [92, 92] = [.root] ∧
    comps .windows [92, 92, 115, 114, 118] = [.pfx ⟨[92, 92, 115, 114, 118], .unc [115, 114, 118] []⟩] := by
  refine ⟨?_, ?_, ?_⟩
  · unfold pushChecked; rw [C03.comps_new_closed]; decide +kernel
  · rw [C03.comps_new_closed]; decide +kernel
  · rw [C03.comps_new_closed]; decide +kernel

example : neverClimbs 0 [.normal [97], .parent, .normal [98]] := by simp [neverClimbs]
example : ¬ neverClimbs 0 [.cur, .parent] := by simp [neverClimbs]
example : pushChecked .unix [47, 98] [97, 47, 46, 46, 47, 99] = .ok [47, 98, 47, 97, 47, 46, 46, 47, 99] := by
  unfold pushChecked; rw [C03.comps_new_closed]; decide +kernel
example : pushChecked .unix [47, 98] [46, 47, 46, 46] = .error .pathTraversal := by
  unfold pushChecked; rw [C03.comps_new_closed]; decide +kernel

end TP.C04
