/-
Props/C11.lean — normalize resolves `.` and `..` lexically, idempotently, never above the root.

`normFold` (Model/Path.lean) *is* the documented scan: drop `.`; `..` cancels the nearest
preceding normal component and otherwise vanishes; everything else (prefix, root, names) is
kept.  What needs proof is that rebuilding the path by pushing the kept components one by one
yields bytes that parse back to exactly those components — the render lemma
(`Lemmas/Render.lean`).  The fold only drops components, and a sublist of a parsed component list
is again one that renders faithfully.  Unix here; Windows in Props/C11b.
-/
import TypedPathVerif.Lemmas.Render
import TypedPathVerif.Lemmas.NormFold

namespace TP.C11

/-- a byte string that parses as exactly one normal component -/
def nameOK (s : Bytes) : Prop := s ≠ [] ∧ (∀ y ∈ s, usep y = false) ∧ s ≠ CUR ∧ s ≠ PAR

/-- a list made of an optional leading root followed by good names only -/
def Shape (l : List Comp) : Prop :=
  ∃ ns : List Bytes, (l = ns.map Comp.normal ∨ l = .root :: ns.map Comp.normal) ∧ ∀ s ∈ ns, nameOK s

theorem Shape.parsed {l : List Comp} (h : Shape l) : Parsed usep l := by
  obtain ⟨ns, hns, hok⟩ := h
  have hmap : ∀ x ∈ ns.map Comp.normal, tailOKs usep x := by
    intro x hx
    obtain ⟨s, hs, rfl⟩ := List.mem_map.mp hx
    exact Or.inr ⟨s, rfl, hok s hs⟩
  rcases hns with rfl | rfl
  · cases ns with
    | nil => trivial
    | cons s ns =>
      exact ⟨Or.inr (Or.inr (hmap _ (List.mem_cons_self ..))), fun x hx => hmap x (List.mem_cons_of_mem _ hx)⟩
  · exact ⟨Or.inl rfl, hmap⟩

/-- Rendering a shaped list by pushing its components one by one onto an empty buffer yields
bytes that parse back to exactly that list. -/
theorem render_shape (l : List Comp) (h : Shape l) : comps .unix (pushAll .unix [] l) = l :=
  render_parsed l h.parsed

/-- Unix: the normalised path parses to exactly the documented fold of the input's components. -/
theorem unix_normalize_comps (b : Bytes) :
    comps .unix (normalize .unix b) = normFold [] (comps .unix b) := by
  have hsub := normFold_sublist (comps .unix b) []
  rw [List.nil_append] at hsub
  exact render_parsed _ ((unix_comps_parsed b).sublist hsub)

theorem unix_normalize_no_dots (b : Bytes) :
    ∀ c ∈ comps .unix (normalize .unix b), c ≠ .cur ∧ c ≠ .parent :=
  normalize_no_dots_of_render .unix b (unix_normalize_comps b)

theorem unix_normalize_idempotent (b : Bytes) :
    normalize .unix (normalize .unix b) = normalize .unix b :=
  normalize_idem_of_render .unix b (unix_normalize_comps b)

theorem unix_normalize_keeps_root (b : Bytes) :
    (comps .unix (normalize .unix b)).head? = some .root ↔ (comps .unix b).head? = some .root := by
  rw [unix_normalize_comps]
  constructor
  · -- a root of the result is a root of the input, where it can only stand in front
    exact fun h => (unix_comps_parsed b).head_of_root_mem
      ((normFold_sublist (comps .unix b) []).subset (List.mem_of_mem_head? h))
  · -- the root goes to the bottom of the stack: `..` pops names only
    intro h
    obtain ⟨cs, hc⟩ := List.head?_eq_some_iff.mp h
    rw [hc, normFold_keep ⟨Comp.noConfusion, Comp.noConfusion⟩]
    exact normFold_head rfl cs []

example : normalize .unix [47, 97, 47, 46, 46, 47, 46, 46, 47, 98] = [47, 98] := by
  unfold normalize; rw [C03.comps_new_closed]; decide +kernel
example : normalize .unix [97, 47, 46, 47, 98, 47, 46, 46, 47, 99] = [97, 47, 99] := by
  unfold normalize; rw [C03.comps_new_closed]; decide +kernel
example : normFold [] [.root, .parent, .normal [97]] = [.root, .normal [97]] := by decide +kernel

end TP.C11
