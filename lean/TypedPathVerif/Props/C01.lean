/-
Props/C01.lean — Unix paths parse exactly as std::path does on a Unix host.

`StdSpec` (Spec/StdSpec.lean) is the declarative description of std's Unix parser; the
harness compares it with real `std::path` on every run.  The theorems say the model refines
it: forward, backward, under every interleaving, for the remainder after every step and for
the root / absoluteness queries.  `StdSpec.comps` is the split-based grammar of C02 at `/` with
every interior `.` dropped (`stdSpec_eq_bodySpec`), which `C02.compsT_eq_bodySpec` proves of the
token parser; the interleavings are C03's.
-/
import TypedPathVerif.Lemmas.Append
import TypedPathVerif.Lemmas.Parsed
import TypedPathVerif.Lemmas.Reparse
import TypedPathVerif.Lemmas.Split
import TypedPathVerif.Props.C03

namespace TP.C01

theorem usep_eq_isSlash : usep = StdSpec.isSlash := rfl

theorem interiorK_false : WinGrammar.interiorK false = StdSpec.interior := by
  funext s
  unfold WinGrammar.interiorK StdSpec.interior
  by_cases h1 : s = [] <;> by_cases h2 : s = CUR <;> simp [h1, h2]

theorem stdSpec_eq_bodySpec (b : Bytes) : StdSpec.comps b = WinGrammar.bodySpec usep false b := by
  unfold WinGrammar.bodySpec StdSpec.comps
  rw [interiorK_false, ← usep_eq_isSlash]
  cases StdSpec.splitOn usep b with
  | nil => rfl
  | cons s0 rest =>
    cases b with
    | nil => rfl
    | cons x xs => simp [usep]

/-- Forward iteration yields exactly std's components. -/
theorem unix_front_all (b : Bytes) : comps .unix b = StdSpec.comps b := by
  rw [unix_comps_eq, C02.compsT_eq_bodySpec, stdSpec_eq_bodySpec]

/-- Any interleaving of front and back steps returns what std's double-ended iterator
returns, and the components still to come are std's untouched middle. -/
theorem unix_interleave (b : Bytes) (steps : List Bool) :
    (runSteps (Enc.new .unix b) steps).1 = (takeSteps (StdSpec.comps b) steps).1 ∧
    (runSteps (Enc.new .unix b) steps).2.comps = (takeSteps (StdSpec.comps b) steps).2 := by
  rw [← unix_front_all]
  exact C03.dei_interleave .unix b steps

/-- After every step the not-yet-consumed remainder, viewed as a path (parsed by std), has
exactly std's remaining components. -/
theorem unix_remainder (b : Bytes) (steps : List Bool) :
    StdSpec.comps (runSteps (Enc.new .unix b) steps).2.remaining =
      (takeSteps (StdSpec.comps b) steps).2 := by
  have hr := runSteps_keeps (P := fun st => Reach usep false st ∧ st.pre = none)
    (fun h hs => ⟨hs.1.front h, (nextFront_toks h).2.1⟩)
    (fun h hs => ⟨hs.1.back h, nextBack_pre_none hs.2 h⟩) steps _ ⟨reach_new_unix b, rfl⟩
  rw [← unix_front_all, unix_reparse hr.1 hr.2]
  exact (unix_interleave b steps).2

/-- The path reports a root / absoluteness exactly when std does. -/
theorem unix_has_root (b : Bytes) :
    hasRoot .unix b = StdSpec.hasRoot b ∧ isAbsolute .unix b = StdSpec.hasRoot b := by
  have h : isAbsolute .unix b = StdSpec.hasRoot b := by
    refine Bool.eq_iff_iff.mpr ?_
    rw [unix_isAbsolute_iff, unix_comps_eq, compsT_head_root]
    cases b <;> simp [StdSpec.hasRoot, usep]
  exact ⟨h, h⟩

example : StdSpec.comps [47, 97, 47, 46, 47, 46, 46, 47] = [.root, .normal [97], .parent] := by decide +kernel
example : StdSpec.comps [46, 47, 47, 97] = [.cur, .normal [97]] := by decide +kernel
example : (takeSteps (StdSpec.comps [47, 97, 47, 98]) [true, false]).2 = [.normal [97]] := by decide +kernel

end TP.C01
