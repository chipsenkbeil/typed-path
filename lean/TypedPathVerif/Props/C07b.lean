/-
Props/C07b.lean — C07 continued: the derived forms `extend`, `collect` (`FromIterator`) and `join`.

The crate implements `Extend` / `FromIterator` for its buffers as repeated `push`, and `join` as
`to_path_buf` + `push`; so does std.  The harness checks that reading of the code on every run
(`extend-collect-is-repeated-push`, with fused, non-fused and inexactly sized iterators; `join` in the
transcripts).  Here the consequence for all item lists: after extending related buffers by the same
items the buffers are still related (component-equal), and byte-identical as soon as the last item is
non-empty; a collected buffer is related to std's collected buffer.
-/
import TypedPathVerif.Props.C07

namespace TP.C07b

open TP.C07 StdBuf

/-- `Extend::extend`: push every item -/
def extendM (m : Bytes) (items : List Bytes) : Bytes := items.foldl unixPush m
/-- std's `Extend::extend` -/
def extendS (s : Bytes) (items : List Bytes) : Bytes := items.foldl stdPush s

/-- extending keeps the relation -/
theorem extend_refines : ∀ (items : List Bytes) (m s : Bytes), I m s → I (extendM m items) (extendS s items)
  | [], _, _, h => h
  | p :: ps, m, s, h => by
    simp only [extendM, extendS, List.foldl_cons]
    exact extend_refines ps _ _ (push_step m s p h).1

/-- … hence the buffers have the same components after every `extend` -/
theorem extend_comps (items : List Bytes) (m s : Bytes) (h : I m s) :
    comps .unix (extendS s items) = comps .unix (extendM m items) :=
  I_comps_eq _ _ (extend_refines items m s h)

/-- … and the same bytes when the last item is not empty -/
theorem extend_bytes (items : List Bytes) (p : Bytes) (m s : Bytes) (h : I m s) (hp : p ≠ []) :
    extendS s (items ++ [p]) = extendM m (items ++ [p]) := by
  simp only [extendM, extendS, List.foldl_append, List.foldl_cons, List.foldl_nil]
  exact (push_step _ _ p (extend_refines items m s h)).2 hp

/-- `FromIterator`: start from the empty buffer -/
theorem collect_refines (items : List Bytes) : I (extendM [] items) (extendS [] items) :=
  extend_refines items [] [] (Or.inl rfl)

/-- `join` is `push` on a copy: related receivers give related results -/
theorem join_refines (m s p : Bytes) (h : I m s) : I (unixPush m p) (stdPush s p) := (push_step m s p h).1

example : extendS [97] [[], [98], []] = [97, 47, 98, 47] ∧ extendM [97] [[], [98], []] = [97, 47, 98] := by decide +kernel
example : extendS [] [[47, 97], [98, 46, 99]] = extendM [] [[47, 97], [98, 46, 99]] := by decide +kernel

end TP.C07b
