/-
Props/C10b.lean — C10 continued: what `starts_with` / `ends_with` / `strip_prefix` compute on
EVERY input of both encodings, and the Windows consequences.

The tests compare component TEXTS (`as_bytes`): `starts_with_iff_texts`, `ends_with_iff_texts` (Lemmas/IterAfter).
A prefix component's text is its raw spelling: that is known finding K2 (`c:\a` equals `C:\a` but does not start
with `C:\`; `C10.win_starts_with_K2_witness`).  Where texts determine components (`canon`: Windows paths that do not
start like a prefix) the tests are the property's "leading / trailing run of components" (`win_starts_with_iff`,
`win_ends_with_iff`).  Joining: for a covered base (prefix-free, or complete non-verbatim prefix) the components of
the join begin with the base's, the implicit root of a bare device-namespace / UNC prefix shown.
-/
import TypedPathVerif.Props.C12c
import TypedPathVerif.Props.C16b
import TypedPathVerif.Props.C10
import TypedPathVerif.Lemmas.Canon

namespace TP.C10b

/-- paths with equal lists of component texts start and end with each other, on all inputs -/
theorem starts_with_of_same_texts (e : Enc) (p q : Bytes)
    (h : (comps e q).map (Comp.bytes e) = (comps e p).map (Comp.bytes e)) :
    startsWithP e p q = true ∧ endsWithP e p q = true := by
  rw [starts_with_iff_texts, ends_with_iff_texts, h]
  exact ⟨List.prefix_refl _, List.suffix_refl _⟩

theorem canon_comps_pf (b : Bytes) (hpf : C16.pfxStart b = false) : ∀ c ∈ comps .windows b, canon .windows c := by
  rw [C16.win_comps_pf b hpf]
  exact canon_compsT .windows (f := wsep true) (by decide) false b

theorem win_starts_with_iff (p q : Bytes) (hp : C16.pfxStart p = false) (hq : C16.pfxStart q = false) :
    startsWithP .windows p q = true ↔ comps .windows q <+: comps .windows p :=
  starts_with_iff_of_canon (canon_comps_pf p hp) (canon_comps_pf q hq)

theorem win_ends_with_iff (p q : Bytes) (hp : C16.pfxStart p = false) (hq : C16.pfxStart q = false) :
    endsWithP .windows p q = true ↔ comps .windows q <:+ comps .windows p :=
  ends_with_iff_of_canon (canon_comps_pf p hp) (canon_comps_pf q hq)

theorem win_starts_ends_of_eq (p q : Bytes) (hp : C16.pfxStart p = false) (hq : C16.pfxStart q = false)
    (h : comps .windows p = comps .windows q) :
    startsWithP .windows p q = true ∧ endsWithP .windows p q = true := by
  rw [win_starts_with_iff p q hp hq, win_ends_with_iff p q hp hq, h]
  exact ⟨List.prefix_refl _, List.suffix_refl _⟩

/-- **Windows: the components of the join begin with the base's.**  For a covered base `a` (prefix-free, or
with a complete non-verbatim prefix) and a portable name, the components of `a.join(n)` begin with the base's
(implicit root of a bare device-namespace / UNC prefix shown); `starts_with` compares texts instead (K2). -/
theorem win_join_name_starts (a n : Bytes) (ha : C12c.Base a) (hn : C16b.portable n) :
    C12c.shown (comps .windows a) <+: comps .windows (push .windows a n) := by
  rw [(C12c.push_name a n ha hn).2]
  exact List.prefix_append _ _

/-- a non-empty prefix-free base and any non-empty relative prefix-free argument: the join's components
begin with the base's, and `starts_with` reports it -/
theorem win_join_starts_pf (a b : Bytes) (ha : C16.pfxStart a = false) (hane : a ≠ []) (hbne : b ≠ [])
    (hb : C16.pfxStart b = false) (hrel : JoinRules.startsWithSep b = false) :
    startsWithP .windows (push .windows a b) a = true ∧
    comps .windows (push .windows a b) = comps .windows a ++ dropLeadingCur (comps .windows b) := by
  obtain ⟨h1, h2⟩ := C16b.win_push_comps_pf a b ha hane hbne hb hrel
  refine ⟨?_, h2⟩
  rw [show push .windows a b = windowsPush a b from rfl, win_starts_with_iff _ a h1 ha, h2]
  exact List.prefix_append _ _

/-- with a complete non-verbatim prefix: text form (the base's raw prefix text is kept verbatim by
the join, so the K2 caveat does not arise) -/
theorem win_join_starts_prefixed (a q rest : Bytes) (p : PrefixComp)
    (hpa : parsePrefixComp a = some (p, rest)) (hc : Win.Complete p.kind)
    (hnv : JoinRules.isVerbatimKind p.kind = false) (hrest : rest ≠ [])
    (hqne : q ≠ []) (hq : C16.pfxStart q = false) (hrel : JoinRules.startsWithSep q = false) :
    startsWithP .windows (push .windows a q) a = true := by
  obtain ⟨_, hcomp⟩ := Win.win_push_comps_prefixed a q rest p hpa hc hnv hqne hq hrel
  simp only [hrest, if_false] at hcomp
  rw [show push .windows a q = windowsPush a q from rfl, starts_with_iff_texts, hcomp, List.map_append]
  exact List.prefix_append _ _

-- `a\b\c` starts with `a//b`

example : startsWithP .windows [97, 92, 98, 92, 99] [97, 47, 47, 98] = true := by
  unfold startsWithP; rw [C03.comps_new_closed]; decide +kernel
example : C16.pfxStart [97, 92, 98, 92, 99] = false ∧ C16.pfxStart [97, 47, 47, 98] = false := by decide +kernel

end TP.C10b
