/-
Props/C06b.lean — C06 / C09 continued: the parent of a Unix path is BYTE-MINIMAL.

`Props/C09` proves that `parent` returns a leading byte-slice of the path whose std components
are std's components of the path without the last one.  Many leading slices have those
components (`a/b`, `a/`, `a/.` … all read `[a]`); std hands back the shortest one (its
`Components::as_path` trims every trailing separator and `.` segment down to the root), and
C06 asks for "returned sub-paths identical byte for byte".  Here: the slice `parent` returns is
the SHORTEST leading slice with those components — no proper leading slice of it has the same
components (`unix_parent_minimal`) — so it is determined by `StdSpec.comps` alone
(`unix_parent_unique`): a parent that kept a trailing separator, a trailing `/.`, or dropped a
byte too many is excluded for every input.

The argument is a measure: `W` = the total text length of a component list.  A path whose tokens do
not end in junk weighs more than each of its proper leading slices (`tight_lt`): the slice ends at a
seam between tokens, and what follows holds the last component, or it ends inside a segment, and
that segment is longer in the whole path.
-/
import TypedPathVerif.Props.C09b

namespace TP.C06b

def W (l : List Comp) : Nat := (l.map (fun c => (c.bytes .unix).length)).sum

theorem W_nil : W [] = 0 := rfl

theorem W_append (a b : List Comp) : W (a ++ b) = W a + W b := by simp [W]

theorem W_cons (c : Comp) (l : List Comp) : W (c :: l) = (c.bytes .unix).length + W l := by simp [W]

theorem W_body_seg (s : Bytes) : W (body false [.seg s]) = if s = CUR then 0 else s.length := by
  by_cases h : s = CUR
  · subst h
    rfl
  · rw [body_cons_seg [] (by simp [junk, h]), body_nil, W_cons, bytes_segComp]
    simp [h, W]

theorem W_compsT_snoc (r : List Tok) (s : Bytes) :
    W (compsT false true (r ++ [.seg s])) =
      if r = [] then s.length else W (compsT false true r) + if s = CUR then 0 else s.length := by
  by_cases hr : r = []
  · subst hr
    simp [compsT_true_cons, headComp, bytes_segComp, W]
  · rw [compsT_append _ (.inr hr), W_append, W_body_seg, if_neg hr]

theorem W_grow (r : List Tok) (s1 s2 : Bytes) (h1 : s1 ≠ []) (h2 : s2 ≠ []) :
    W (compsT false true (r ++ [.seg s1])) < W (compsT false true (r ++ [.seg (s1 ++ s2)])) := by
  have l1 := List.length_pos_iff.mpr h1
  have l2 := List.length_pos_iff.mpr h2
  have hne : s1 ++ s2 ≠ CUR := fun h => by
    have := congrArg List.length h
    simp [CUR] at this
    omega
  rw [W_compsT_snoc, W_compsT_snoc, if_neg hne, List.length_append]
  split
  · omega
  · split <;> omega

/-- token lists that do not end in junk: empty, the root alone, or ending in a segment that is a
component (`.` only as the whole path) -/
def TightT (ts : List Tok) : Prop :=
  ts = [] ∨ (∃ y, ts = [.sep y]) ∨ ∃ r s, ts = r ++ [.seg s] ∧ (r = [] ∨ s ≠ CUR)

theorem tight_lt {ts : List Tok} (hw : WFToks usep ts) (ht : TightT ts) {q' t : Bytes}
    (h : q' ++ t = untoks ts) (htn : t ≠ []) :
    W (compsT false true (toks usep q')) < W (compsT false true ts) := by
  have hts : toks usep (q' ++ t) = ts := h ▸ toks_untoks ts hw
  have htt : toks usep t ≠ [] := fun h0 => htn ((toks_eq_nil_iff usep t).mp h0)
  by_cases hj : Joinable (toks usep q') (toks usep t)
  · -- the slice ends at a seam: what follows holds the last component
    rw [toks_append usep q' t hj] at hts
    rcases ht with rfl | ⟨y, rfl⟩ | ⟨r, s, rfl, hrs⟩
    · -- `[]` has no room for the tokens of `t`
      simp [htt] at hts
    · -- `[.sep y]` has room for them only if `q'` has no token: then `q'` weighs 0, the root 1
      cases hq : toks usep q' with
      | nil => simp [compsT_true_cons, headComp, W, Comp.bytes]
      | cons u v =>
        rw [hq] at hts
        cases v <;> simp [htt] at hts
    · have l := List.length_pos_iff.mpr (WFToks_suffix r hw : WFToks usep [.seg s]).1
      rcases List.eq_nil_or_concat (toks usep t) with h0 | ⟨z, u, hz⟩
      · exact absurd h0 htt
      · rw [hz, List.concat_eq_append, ← List.append_assoc] at hts
        obtain ⟨h1, h2⟩ := List.append_inj' hts rfl
        cases h2
        rw [W_compsT_snoc]
        by_cases hr : r = []
        · have hq : toks usep q' = [] := (List.append_eq_nil_iff.mp (h1.trans hr)).1
          rw [if_pos hr, hq, compsT_nil, W_nil]
          exact l
        · rw [if_neg hr, if_neg (hrs.resolve_left hr)]
          by_cases hq : toks usep q' = []
          · rw [hq, compsT_nil, W_nil]
            omega
          · rw [← h1, compsT_append _ (.inr hq), W_append]
            omega
  · -- the slice ends inside a segment: that segment is longer in the whole path
    have hj' : ¬ notSegLast (toks usep q') ∧ ¬ notSegHead (toks usep t) := by
      simpa [Joinable, not_or] using hj
    obtain ⟨r, s1, hq⟩ : ∃ r s1, toks usep q' = r ++ [.seg s1] := by
      rcases List.eq_nil_or_concat (toks usep q') with h0 | ⟨r, u, h0⟩
      · exact absurd (by simp [notSegLast, h0]) hj'.1
      · cases u with
        | sep y => exact absurd (by simp [notSegLast, h0]) hj'.1
        | seg s1 => exact ⟨r, s1, by simpa using h0⟩
    obtain ⟨s2, z, hb⟩ : ∃ s2 z, toks usep t = .seg s2 :: z := by
      cases hb : toks usep t with
      | nil => exact absurd hb htt
      | cons u z =>
        cases u with
        | sep y =>
          rw [hb] at hj'
          exact absurd trivial hj'.2
        | seg s2 => exact ⟨s2, z, rfl⟩
    rw [toks_append_merge hq hb] at hts
    have n1 : s1 ≠ [] := (WFToks_suffix r (hq ▸ WFToks_toks usep q') : WFToks usep [.seg s1]).1
    have n2 := (hb ▸ WFToks_toks usep t : WFToks usep (.seg s2 :: z)).1
    have e : compsT false true ts = compsT false true (r ++ [.seg (s1 ++ s2)]) ++ body false z := by
      rw [← hts, List.append_cons, compsT_append _ (.inr (by simp))]
    rw [e, W_append, hq]
    exact Nat.lt_of_lt_of_le (W_grow r s1 s2 n1 n2) (Nat.le_add_right _ _)

theorem tight_minimal {ts : List Tok} (hw : WFToks usep ts) (ht : TightT ts) (q' : Bytes)
    (hp : q' <+: untoks ts) (hc : comps .unix q' = comps .unix (untoks ts)) : q' = untoks ts := by
  obtain ⟨t, h⟩ := hp
  by_cases htn : t = []
  · simpa [htn] using h
  · have := tight_lt hw ht h htn
    rw [unix_comps_eq, unix_comps_eq, toks_untoks ts hw] at hc
    rw [hc] at this
    exact absurd this (Nat.lt_irrefl _)

theorem trimBack_tight (r : List Tok) : TightT (trimBack false true r) := by
  unfold trimBack
  split
  · -- everything was junk: the first token stays, a root separator or a leading `.`
    cases r with
    | nil => exact .inl rfl
    | cons t r0 =>
      cases t with
      | sep y => exact .inr (.inl ⟨y, rfl⟩)
      | seg s => exact .inr (.inr ⟨[], s, rfl, .inl rfl⟩)
  · rcases junk_or_lastSeg false r with hj | ⟨r0, s, j, rfl, hs, hj⟩
    · exact .inl (skipBack_all_junk hj)
    · rw [skipBack_lastSeg r0 hs hj]
      exact .inr (.inr ⟨r0, s, rfl, .inr (by simpa [junk] using hs)⟩)

theorem backT_tight {ts ts' : List Tok} {c : Comp} (h : backT false true ts = some (c, ts')) : TightT ts' := by
  rcases backT_cases h with ⟨_, rfl, _⟩ | ⟨r, s, j, rfl, _, _, _, rfl⟩
  · exact .inl rfl
  · exact trimBack_tight r

theorem unix_parent_tight (b q : Bytes) (h : parent .unix b = some q) :
    ∃ ts, WFToks usep ts ∧ TightT ts ∧ q = untoks ts := by
  obtain ⟨c, ts', hbt, _, rfl⟩ := C09.parent_eq_some h
  obtain ⟨x, (hx : toks usep b = ts' ++ x)⟩ := backT_prefix hbt
  exact ⟨ts', WFToks_prefix ts' (hx ▸ WFToks_toks usep b), backT_tight hbt, rfl⟩

/-- **C06, byte-minimality of `parent`.**  No proper leading slice of the returned parent has the
parent's std components: `parent` hands back the shortest leading slice of the path whose
components are the path's components without the last one. -/
theorem unix_parent_minimal (b q : Bytes) (h : parent .unix b = some q) (q' : Bytes)
    (hp : q' <+: q) (hc : StdSpec.comps q' = StdSpec.comps q) : q' = q := by
  obtain ⟨ts, hw, ht, rfl⟩ := unix_parent_tight b q h
  rw [← C01.unix_front_all, ← C01.unix_front_all] at hc
  exact tight_minimal hw ht q' hp hc

/-- … so the returned bytes are determined by `StdSpec.comps` alone: any leading slice `r` of the
path with the right components and the same minimality is the parent, byte for byte. -/
theorem unix_parent_unique (b q r : Bytes) (h : parent .unix b = some q)
    (hr : r <+: b) (hrc : StdSpec.comps r = (StdSpec.comps b).dropLast)
    (hmin : ∀ r', r' <+: r → StdSpec.comps r' = StdSpec.comps r → r' = r) : r = q := by
  obtain ⟨hqc, t, hqt⟩ := C09.unix_parent_vs_std b q h
  have hqb : q <+: b := ⟨t, hqt.symm⟩
  rcases List.prefix_or_prefix_of_prefix hr hqb with h1 | h1
  · exact unix_parent_minimal b q h r h1 (by rw [hrc, hqc])
  · exact (hmin q h1 (by rw [hrc, hqc])).symm

/-- **C06, `ancestors`.**  Every ancestor after the path itself is byte-minimal in the same sense. -/
theorem unix_ancestors_minimal (b : Bytes) :
    ∀ q ∈ (ancestors .unix b).tail, ∀ q', q' <+: q → StdSpec.comps q' = StdSpec.comps q → q' = q := by
  intro q hq
  obtain ⟨p, hpq⟩ := C09b.ancestors_tail_parents .unix b q hq
  exact unix_parent_minimal p q hpq

example : parent .unix [97, 47, 47, 98, 47, 46, 47] = some [97] := by decide +kernel
example : parent .unix [47, 47, 97] = some [47] := by decide +kernel
example : parent .unix [46, 47, 97] = some [46] := by decide +kernel
-- a leading slice with the same components that is NOT minimal (`a//` for `a`)
example : StdSpec.comps [97, 47, 47] = StdSpec.comps [97] := by decide +kernel
example : ancestors .unix [47, 97, 47, 47, 98, 47] = [[47, 97, 47, 47, 98, 47], [47, 97], [47]] := by decide +kernel

end TP.C06b
