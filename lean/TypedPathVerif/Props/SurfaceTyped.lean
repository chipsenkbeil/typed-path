/-
Props/SurfaceTyped.lean — the trait-impl surface of the `typed` group of source files, as the checks of C15 were
written against it.  `Generated.implMethods_typed` is regenerated on every run (gen/api.py): every
trait impl outside test modules with the methods written inside it — required ones and overridden
provided ones alike.  An added override (`nth`, `size_hint`, `clone_into`, `fold`, …), a new impl
or a removed one changes the regenerated table and breaks `impl_methods_typed`, so C15 is reported as
no longer shown for "every operation".
-/
import TypedPathVerif.Generated.Api

namespace TP.SurfaceTyped

def covered : List String :=
  ["typed/non_utf8/components | AsRef<[u8]> for TypedComponents<> | as_ref",
   "typed/non_utf8/components | fmt::Debug for TypedComponents<> | fmt",
   "typed/non_utf8/components | fmt::Debug for DebugHelper<> | fmt",
   "typed/non_utf8/components | Iterator for TypedComponents<> | next",
   "typed/non_utf8/components | DoubleEndedIterator for TypedComponents<> | next_back",
   "typed/non_utf8/components | cmp::PartialEq for TypedComponents<> | eq",
   "typed/non_utf8/components | cmp::PartialOrd for TypedComponents<> | partial_cmp",
   "typed/non_utf8/components/component | AsRef<[u8]> for TypedComponent<> | as_ref",
   "typed/non_utf8/iter | fmt::Debug for TypedIter<> | fmt",
   "typed/non_utf8/iter | fmt::Debug for DebugHelper<> | fmt",
   "typed/non_utf8/iter | AsRef<[u8]> for TypedIter<> | as_ref",
   "typed/non_utf8/iter | Iterator for TypedIter<> | next",
   "typed/non_utf8/iter | DoubleEndedIterator for TypedIter<> | next_back",
   "typed/non_utf8/iter | Iterator for TypedAncestors<> | next",
   "typed/non_utf8/path | fmt::Display for Display<> | fmt",
   "typed/non_utf8/path | From<&[u8]> for TypedPath<> | from",
   "typed/non_utf8/path | From<&str> for TypedPath<> | from",
   "typed/non_utf8/path | AsRef<[u8]> for TypedPath<> | as_ref",
   "typed/non_utf8/path | TryAsRef<UnixPath> for TypedPath<> | try_as_ref",
   "typed/non_utf8/path | TryAsRef<WindowsPath> for TypedPath<> | try_as_ref",
   "typed/non_utf8/path | PartialEq<TypedPathBuf> for TypedPath<> | eq",
   "typed/non_utf8/pathbuf | AsRef<[u8]> for TypedPathBuf | as_ref",
   "typed/non_utf8/pathbuf | From<&[u8]> for TypedPathBuf | from",
   "typed/non_utf8/pathbuf | From<Vec<u8>> for TypedPathBuf | from",
   "typed/non_utf8/pathbuf | From<&str> for TypedPathBuf | from",
   "typed/non_utf8/pathbuf | From<String> for TypedPathBuf | from",
   "typed/non_utf8/pathbuf | TryFrom<TypedPathBuf> for UnixPathBuf | try_from",
   "typed/non_utf8/pathbuf | TryFrom<TypedPathBuf> for WindowsPathBuf | try_from",
   "typed/non_utf8/pathbuf | TryFrom<TypedPathBuf> for PathBuf | try_from",
   "typed/non_utf8/pathbuf | PartialEq<TypedPath<>> for TypedPathBuf | eq",
   "typed/utf8/components | AsRef<[u8]> for Utf8TypedComponents<> | as_ref",
   "typed/utf8/components | AsRef<str> for Utf8TypedComponents<> | as_ref",
   "typed/utf8/components | fmt::Debug for Utf8TypedComponents<> | fmt",
   "typed/utf8/components | fmt::Debug for DebugHelper<> | fmt",
   "typed/utf8/components | Iterator for Utf8TypedComponents<> | next",
   "typed/utf8/components | DoubleEndedIterator for Utf8TypedComponents<> | next_back",
   "typed/utf8/components | cmp::PartialEq for Utf8TypedComponents<> | eq",
   "typed/utf8/components | cmp::PartialOrd for Utf8TypedComponents<> | partial_cmp",
   "typed/utf8/components/component | fmt::Display for Utf8TypedComponent<> | fmt",
   "typed/utf8/components/component | AsRef<[u8]> for Utf8TypedComponent<> | as_ref",
   "typed/utf8/components/component | AsRef<str> for Utf8TypedComponent<> | as_ref",
   "typed/utf8/iter | fmt::Debug for Utf8TypedIter<> | fmt",
   "typed/utf8/iter | fmt::Debug for DebugHelper<> | fmt",
   "typed/utf8/iter | AsRef<[u8]> for Utf8TypedIter<> | as_ref",
   "typed/utf8/iter | AsRef<str> for Utf8TypedIter<> | as_ref",
   "typed/utf8/iter | Iterator for Utf8TypedIter<> | next",
   "typed/utf8/iter | DoubleEndedIterator for Utf8TypedIter<> | next_back",
   "typed/utf8/iter | Iterator for Utf8TypedAncestors<> | next",
   "typed/utf8/path | fmt::Display for Utf8TypedPath<> | fmt",
   "typed/utf8/path | From<&str> for Utf8TypedPath<> | from",
   "typed/utf8/path | AsRef<str> for Utf8TypedPath<> | as_ref",
   "typed/utf8/path | TryAsRef<Utf8UnixPath> for Utf8TypedPath<> | try_as_ref",
   "typed/utf8/path | TryAsRef<Utf8WindowsPath> for Utf8TypedPath<> | try_as_ref",
   "typed/utf8/path | PartialEq<Utf8TypedPathBuf> for Utf8TypedPath<> | eq",
   "typed/utf8/path | PartialEq<str> for Utf8TypedPath<> | eq",
   "typed/utf8/path | PartialEq<Utf8TypedPath<>> for str | eq",
   "typed/utf8/path | PartialEq<&str> for Utf8TypedPath<> | eq",
   "typed/utf8/path | PartialEq<Utf8TypedPath<>> for &str | eq",
   "typed/utf8/pathbuf | fmt::Display for Utf8TypedPathBuf | fmt",
   "typed/utf8/pathbuf | AsRef<[u8]> for Utf8TypedPathBuf | as_ref",
   "typed/utf8/pathbuf | AsRef<str> for Utf8TypedPathBuf | as_ref",
   "typed/utf8/pathbuf | From<&str> for Utf8TypedPathBuf | from",
   "typed/utf8/pathbuf | From<String> for Utf8TypedPathBuf | from",
   "typed/utf8/pathbuf | TryFrom<Utf8TypedPathBuf> for Utf8UnixPathBuf | try_from",
   "typed/utf8/pathbuf | TryFrom<Utf8TypedPathBuf> for Utf8WindowsPathBuf | try_from",
   "typed/utf8/pathbuf | PartialEq<Utf8TypedPath<>> for Utf8TypedPathBuf | eq",
   "typed/utf8/pathbuf | PartialEq<str> for Utf8TypedPathBuf | eq",
   "typed/utf8/pathbuf | PartialEq<Utf8TypedPathBuf> for str | eq",
   "typed/utf8/pathbuf | PartialEq<&str> for Utf8TypedPathBuf | eq",
   "typed/utf8/pathbuf | PartialEq<Utf8TypedPathBuf> for &str | eq"]

theorem impl_methods_typed : Generated.implMethods_typed = covered := rfl

end TP.SurfaceTyped
