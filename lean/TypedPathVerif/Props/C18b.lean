/-
Props/C18b.lean — C18 continued: counters cannot overflow.

`push_checked` keeps a count of the normal components seen so far (decremented by `..`).  The
theorems of Props/C18 show that the decrement never underflows; here: the count never exceeds the
number of components scanned, which never exceeds the number of bytes of the argument plus one —
so a counter as wide as the length type (`usize`) cannot overflow, while a narrower one (`i8`,
`u16`, …) can: the bound is attained (`maxCount_attained`).  `checkedScanW_spec` ties the two
together: a scan whose counter has largest value `W` faults exactly when `maxCount` exceeds `W`.
-/
import TypedPathVerif.Props.C18

namespace TP.C18b

/-- the largest value the `normal_cnt` counter of `push_checked` takes while scanning `cs`,
starting from `n` (the scan stops at the first error, as the code does) -/
def maxCount (e : Enc) : Nat → List Comp → Nat
  | n, [] => n
  | n, c :: cs =>
    match c with
    | .pfx _ => n
    | .root => n
    | .parent => if n = 0 then n else max n (maxCount e (n - 1) cs)
    | .normal s => if s.any (fun b => (forbidden e).contains b) then n else max n (maxCount e (n + 1) cs)
    | .cur => maxCount e n cs

theorem le_maxCount (e : Enc) : ∀ (cs : List Comp) (n : Nat), n ≤ maxCount e n cs := by
  intro cs n
  -- `..` at a positive count and a clean name take a `max` with `n`; `.` passes `n` on; the rest stop at `n`
  fun_induction maxCount e n cs with
  | case5 | case7 => exact Nat.le_max_left ..
  | case8 n cs ih => exact ih
  | _ => exact Nat.le_refl _

theorem maxCount_le (e : Enc) : ∀ (cs : List Comp) (n : Nat), maxCount e n cs ≤ n + cs.length := by
  intro cs n
  -- a step moves the counter by at most one and shortens the list by one
  fun_induction maxCount e n cs with
  | case5 n cs hn ih =>
    refine Nat.max_le.mpr ⟨Nat.le_add_right .., Nat.le_trans ih ?_⟩
    rw [List.length_cons]
    omega
  | case7 n cs s hs ih =>
    refine Nat.max_le.mpr ⟨Nat.le_add_right .., Nat.le_trans ih ?_⟩
    rw [List.length_cons]
    omega
  | case8 n cs ih => exact Nat.le_trans ih (Nat.add_le_add_left (Nat.le_succ _) n)
  | _ => exact Nat.le_add_right ..

/-- **The `push_checked` counter is bounded by the argument's length (+1)**: for every argument `p`,
the largest value of `normal_cnt` during the scan is at most `p.length + 1`. -/
theorem checked_count_bounded (e : Enc) (p : Bytes) : maxCount e 0 (comps e p) ≤ p.length + 1 := by
  have h1 := maxCount_le e (comps e p) 0
  have h2 := comps_length_le e p
  omega

theorem maxCount_replicate (e : Enc) (s : Bytes) (hs : s.any (fun b => (forbidden e).contains b) = false) :
    ∀ (m k : Nat), maxCount e k (List.replicate m (Comp.normal s)) = k + m := by
  intro m
  induction m with
  | zero =>
    intro k
    simp [maxCount]
  | succ m ih =>
    intro k
    simp only [List.replicate_succ, maxCount, hs, Bool.false_eq_true, if_false, ih (k + 1)]
    omega

theorem clean_a (e : Enc) : ([97] : Bytes).any (fun b => (forbidden e).contains b) = false := by
  cases e <;> decide

/-- the bound is attained up to the separators: `n` clean names drive the counter to `n` -/
theorem maxCount_attained (e : Enc) (n : Nat) :
    maxCount e 0 (List.replicate n (.normal [97])) = n := by
  simpa using maxCount_replicate e [97] (clean_a e) n 0

/-- the scan of `push_checked` with the counter kept in a type whose largest value is `W`: the
increment faults (`none`) when it would exceed `W`; the decrement is the model's, taken at a positive
count only (that it cannot underflow is `C18.checked_count_no_underflow`) -/
def checkedScanW (e : Enc) (W : Nat) : Nat → List Comp → Option (Option CheckedErr)
  | _, [] => some none
  | n, c :: cs =>
    match c with
    | .pfx _ => some (some .unexpectedPrefix)
    | .root => some (some .unexpectedRoot)
    | .parent =>
      if n = 0 then some (some .pathTraversal)
      else checkedScanW e W (n - 1) cs
    | .normal s =>
      if s.any (fun b => (forbidden e).contains b) then some (some .invalidFilename)
      else if n + 1 ≤ W then checkedScanW e W (n + 1) cs else none
    | .cur => checkedScanW e W n cs

theorem checkedScanW_spec (e : Enc) (W : Nat) (cs : List Comp) (n : Nat) (h : n ≤ W) :
    checkedScanW e W n cs = if maxCount e n cs ≤ W then some (checkedScan e n cs) else none := by
  -- cases follow `maxCount` (those of `checkedScan`): [], prefix, root, `..` at count 0, `..` at a positive
  -- count, invalid name, valid name, `.`
  fun_induction maxCount e n cs with
  | case1 n => simp [checkedScanW, checkedScan, h]
  | case2 n cs p => simp [checkedScanW, checkedScan, h]
  | case3 n cs => simp [checkedScanW, checkedScan, h]
  | case4 cs => simp [checkedScanW, checkedScan]
  | case5 n cs hn ih =>
    simp only [checkedScanW, checkedScan, hn, if_false, ih (by omega), Nat.max_le, h, true_and]
  | case6 n cs s hs =>
    simp only [checkedScanW, checkedScan, hs, if_true]
    simp [h]
  | case7 n cs s hs ih =>
    simp only [checkedScanW, checkedScan, hs, Bool.false_eq_true, if_false, Nat.max_le, h, true_and]
    by_cases h1 : n + 1 ≤ W
    · rw [if_pos h1, ih h1]
    · -- the increment faults, and the counter does pass `W`
      have := le_maxCount e cs (n + 1)
      rw [if_neg h1, if_neg (by omega)]
  | case8 n cs ih => simpa only [checkedScanW, checkedScan] using ih h

/-- **with a counter at least as wide as the number of components the scan never faults and is
the model's scan** -/
theorem checkedScanW_eq (e : Enc) (W : Nat) : ∀ (cs : List Comp) (n : Nat), n + cs.length ≤ W →
    checkedScanW e W n cs = some (checkedScan e n cs) := by
  intro cs n h
  rw [checkedScanW_spec e W cs n (by omega), if_pos (Nat.le_trans (maxCount_le e cs n) h)]

/-- in particular a counter as wide as the length type is enough for every argument -/
theorem checked_count_fits_usize (e : Enc) (p : Bytes) (W : Nat) (h : p.length + 1 ≤ W) :
    checkedScanW e W 0 (comps e p) = some (checkedScan e 0 (comps e p)) :=
  checkedScanW_eq e W _ 0 (by have := comps_length_le e p; omega)

theorem checkedScan_replicate (e : Enc) (s : Bytes) (hs : s.any (fun b => (forbidden e).contains b) = false) :
    ∀ (m n : Nat), checkedScan e n (List.replicate m (Comp.normal s)) = none := by
  intro m
  induction m with
  | zero =>
    intro n
    rfl
  | succ m ih =>
    intro n
    simp only [List.replicate_succ, checkedScan, hs, Bool.false_eq_true, if_false, ih (n + 1)]

/-- a narrower counter is not enough: 128 clean names overflow a counter whose largest value is 127
although the model (and the crate) accept them -/
theorem narrow_counter_faults (e : Enc) :
    checkedScanW e 127 0 (List.replicate 128 (.normal [97])) = none ∧
    checkedScan e 0 (List.replicate 128 (.normal [97])) = none := by
  refine ⟨?_, checkedScan_replicate e [97] (clean_a e) 128 0⟩
  rw [checkedScanW_spec e 127 _ 0 (by omega), maxCount_attained]
  rfl

end TP.C18b
