/-
Props/C15.lean — Typed and platform wrappers are transparent: the part that is logic.

A typed value is a tag (Unix / Windows) plus a concrete path of that encoding; every wrapper method
delegates to the concrete method of the tagged variant.  That delegation is code shape, not
logic, and is decided by translation validation (whole-family transcripts, C15's oracle).  What IS
logic is the rule by which `TypedPath::derive` picks the tag from raw bytes (`derive_iff`).
-/
import TypedPathVerif.Lemmas.WinStable
import TypedPathVerif.Lemmas.WinPush
import TypedPathVerif.Lemmas.PfxStart
import TypedPathVerif.Generated.Api

namespace TP.C15

open TP.JoinRules

theorem derive_iff (b : Bytes) :
    deriveIsWindows b = true ↔ b.head? = some BSLASH ∨ (parsePrefix b).isSome = true := by
  unfold deriveIsWindows
  rw [C08.wHasPrefix_eq]
  have : (prefixOf b).isSome = (parsePrefix b).isSome := by
    unfold prefixOf parsePrefixComp
    cases parsePrefix b with
    | none => rfl
    | some x => rfl
  rw [this]
  simp

theorem derive_windows_of_prefix (b : Bytes) (k : WPrefix) (rest : Bytes) (h : parsePrefix b = some (k, rest)) :
    deriveIsWindows b = true := by
  rw [derive_iff]; right; rw [h]; rfl

theorem derive_disk (d : UInt8) (rest : Bytes) (hd : isAsciiAlpha d = true) :
    deriveIsWindows (d :: COLON :: rest) = true :=
  derive_windows_of_prefix _ (.disk (toAsciiUpper d)) rest (Win.parse_of_shape (.disk hd))

theorem derive_unix_of_prefix_free (b : Bytes) (h1 : b.head? ≠ some BSLASH) (h2 : C16.pfxStart b = false) :
    deriveIsWindows b = false := by
  cases h : deriveIsWindows b with
  | false => rfl
  | true =>
    rcases (derive_iff b).mp h with h' | h'
    · exact absurd h' h1
    · rw [C16.parsePrefix_none_of_pfxStart b h2] at h'; cases h'

/-- the tag of a path with a complete prefix does not depend on what (tolerated) bytes follow it; in fact a prefix text
followed by anything at all carries a prefix (`Win.parsePrefix_isSome_of_raw`), so neither `hc` nor `hok` is used -/
theorem derive_stable {b rest : Bytes} {p : PrefixComp} (hp : parsePrefixComp b = some (p, rest))
    (hc : Win.Complete p.kind) (rest' : Bytes) (hok : Win.RestOK p rest') :
    deriveIsWindows (p.raw ++ rest') = true :=
  (derive_iff _).mpr (.inr (Win.parsePrefix_isSome_of_raw hp rest'))

/-! ### the documented examples -/

example : deriveIsWindows [67, 58, 92, 97] = true := by decide +kernel        -- C:\a
example : deriveIsWindows [92, 97] = true := by decide +kernel                -- \a
example : deriveIsWindows [47, 97] = false := by decide +kernel               -- /a
example : deriveIsWindows [97, 92, 98] = false := by decide +kernel           -- a\b
example : deriveIsWindows [] = false := by decide +kernel
-- the two-separator lead-in of a prefix may be spelled with either separator in either position:
-- `/` `\` `s` `\` `h` and `/` `\` `?` `\` `C` `:` carry a prefix although they start with `/` (seed C15r11)
example : deriveIsWindows [47, 92, 115, 92, 104] = true := by decide +kernel
example : deriveIsWindows [47, 92, 63, 92, 67, 58] = true := by decide +kernel
example : deriveIsWindows [47, 47] = false := by decide +kernel

/-- every public method the `typed` group of source files declares now is called by the harness
(regenerated table, gen/api.py): a method added without a transcript line breaks this -/
theorem api_exercised_typed : Generated.apiUnexercised_typed = [] := rfl

end TP.C15
