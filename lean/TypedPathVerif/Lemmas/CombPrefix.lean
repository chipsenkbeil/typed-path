/-
Lemmas/CombPrefix.lean — the byte-level Windows prefix parsers built from the combinators
(`Model/Comb/Windows.lean`) never fault and equal the option-valued prefix parsers of
`Model/Enc.lean` (on which the theorems of C02 / C02b / C08 are stated).

The transcription goes byte by byte where `Model/Enc.lean` matches several bytes at once: the
single-byte parsers are peeled off the input (`sep_bind`, `byte_bind`, `take1_bind`), a field
parser is the `liftO` of its option-valued counterpart, and `any_of!` over such parsers is `orElse`
(`anyOf_cons_liftO`).
-/
import TypedPathVerif.Lemmas.CombWin
import TypedPathVerif.Lemmas.WinPrefix

namespace TP.Comb.Windows

open TP.Comb

/-- `Option (value × rest)` as a parse result -/
def liftO {α : Type} : Option (α × Bytes) → Res α
  | some (v, r) => .ok r v
  | none => .err

theorem separator_takeSep (n : Bool) (i : Bytes) :
    separator n i = match takeSep n i with
      | some r => .ok r ()
      | none => .err := by
  rw [separator_eq]
  cases i with
  | nil => rfl
  | cons x r => cases h : wsep n x <;> simp [tokP, sepC, takeSep, h, ofOpt]

theorem normalBytes_eq (n : Bool) (i : Bytes) : normalBytes n i = liftO (takeNormal n i) := by
  unfold normalBytes takeNormal
  rw [takeUntilByte1_eq]
  simp only
  split <;> rfl

theorem ite_band {α : Type} (a b : Bool) (x y : α) :
    (if (a && b) = true then x else y) = if a = true then (if b = true then x else y) else y := by
  cases a <;> cases b <;> rfl

theorem sep_bind {α : Type} (n : Bool) (i : Bytes) (k : Bytes → Unit → Res α) :
    (separator n i).bind k = match i with
      | x :: r => if wsep n x = true then k r () else .err
      | [] => .err := by
  rw [separator_takeSep]
  cases i with
  | nil => rfl
  | cons x r => cases h : wsep n x <;> simp [takeSep, h, Res.bind]

theorem byte_bind {α : Type} (b : UInt8) (i : Bytes) (k : Bytes → UInt8 → Res α) :
    (byte b i).bind k = match i with
      | x :: r => if x = b then k r b else .err
      | [] => .err := by
  rw [byte_eq]
  cases i with
  | nil => rfl
  | cons x r => by_cases h : x = b <;> simp [h, Res.bind]

/-- the four-byte headers `\\?\` and `\\.\` (either slash in each position), then `k`: the parser
goes byte by byte, `Model/Enc.lean` matches four bytes at once -/
theorem hdr_bind {α : Type} (mid : UInt8) (i : Bytes) (k : Bytes → Res α) :
    ((separator true i).bind fun i _ => (separator true i).bind fun i _ =>
      (byte mid i).bind fun i _ => (separator true i).bind fun i _ => k i) =
    match i with
    | a :: b :: q :: c :: r =>
      if (wsep true a && wsep true b && q = mid && wsep true c) = true then k r else .err
    | _ => .err := by
  simp only [sep_bind, byte_bind]
  rcases i with _ | ⟨a, _ | ⟨b, _ | ⟨q, _ | ⟨c, r⟩⟩⟩⟩
  · rfl
  · simp only [ite_self]
  · simp only [ite_self]
  · simp only [ite_self]
  · simp only
    rw [ite_band, ite_band, ite_band]
    simp only [decide_eq_true_eq]

theorem verbatim_eq (i : Bytes) :
    verbatim i = match verbatimHdr i with
      | some r => .ok r ()
      | none => .err := by
  unfold verbatim verbatimHdr
  rw [hdr_bind]
  rcases i with _ | ⟨a, _ | ⟨b, _ | ⟨q, _ | ⟨c, r⟩⟩⟩⟩ <;> try rfl
  by_cases h : (wsep true a && wsep true b && q = QMARK && wsep true c) = true <;> simp only [h, anySep] <;> rfl

theorem take1_bind {α : Type} (i : Bytes) (k : Bytes → Bytes → Res α) :
    (take 1 i).bind k = match i with
      | x :: r => k r [x]
      | [] => .err := by
  rw [take_eq]
  cases i with
  | nil => rfl
  | cons x r => simp [Res.bind]

theorem diskByte_eq (i : Bytes) : diskByte i = liftO (TP.diskByte i) := by
  unfold diskByte driveLetter
  simp only [take1_bind]
  rcases i with _ | ⟨d, _ | ⟨c, r⟩⟩
  · rfl
  · cases h : isAsciiAlpha d <;> simp [index0, h, Res.bind, byte_eq, TP.diskByte, liftO]
  · simp only [index0, List.head?_cons, TP.diskByte]
    cases h : isAsciiAlpha d
    · rfl
    · simp only [Bool.not_true, Bool.false_eq_true, if_false, bind_ok, byte_bind, Bool.true_and,
        decide_eq_true_eq]
      split <;> rfl

theorem bytesUNC_eq (i : Bytes) :
    bytes UNC i = match takeUNC i with
      | some r => .ok r UNC
      | none => .err := by
  cases ht : takeUNC i with
  | some r =>
    obtain rfl : i = UNC ++ r := Win.takeUNC_iff.mp ht
    exact bytes_append UNC r (by decide)
  | none =>
    refine bytes_err UNC i fun r hr => ?_
    rw [Win.takeUNC_iff.mpr hr] at ht
    cases ht

theorem serverShare_eq (n : Bool) (i : Bytes) (mk : Bytes → Bytes → WPrefix) :
    ((normalBytes n i).bind fun i server =>
      (maybe (separator n) i).bind fun i _ =>
        (maybe (normalBytes n) i).bind fun i maybeShare =>
          .ok i (mk server (maybeShare.getD []))) =
    match serverShare n i with
    | some (server, share, r) => .ok r (mk server share)
    | none => .err := by
  simp only [normalBytes_eq, maybe, separator_takeSep]
  unfold serverShare maybeSep
  cases takeNormal n i with
  | none => rfl
  | some p =>
    obtain ⟨server, r⟩ := p
    simp only [liftO, Res.bind]
    cases takeSep n r with
    | none =>
      simp only
      cases takeNormal n r <;> rfl
    | some r2 =>
      simp only
      cases takeNormal n r2 <;> rfl

theorem prefixVerbatimUNC_eq (i : Bytes) : prefixVerbatimUNC i = liftO (TP.prefixVerbatimUNC i) := by
  unfold prefixVerbatimUNC TP.prefixVerbatimUNC
  simp only [serverShare_eq, verbatim_eq, bytesUNC_eq, separator_takeSep]
  cases verbatimHdr i with
  | none => rfl
  | some r1 =>
    simp only [Res.bind]
    cases takeUNC r1 with
    | none => rfl
    | some r2 =>
      simp only
      cases takeSep (!startsWith i VERB) r2 with
      | none => rfl
      | some r3 =>
        simp only
        cases serverShare (!startsWith i VERB) r3 <;> rfl

theorem prefixVerbatimDisk_eq (i : Bytes) : prefixVerbatimDisk i = liftO (TP.prefixVerbatimDisk i) := by
  unfold prefixVerbatimDisk TP.prefixVerbatimDisk
  simp only [map, prefixed, verbatim_eq, diskByte_eq]
  cases verbatimHdr i with
  | none => rfl
  | some r1 =>
    simp only [Res.bind]
    cases TP.diskByte r1 <;> rfl

theorem liftO_isOk {α : Type} (o : Option (α × Bytes)) : (liftO o).isOk = o.isSome := by
  cases o with
  | none => rfl
  | some p =>
    obtain ⟨v, r⟩ := p
    rfl

theorem not_liftO {α : Type} (o : Option (α × Bytes)) (i : Bytes) (p : P α) (hp : p i = liftO o) :
    not p i = if o.isSome then .err else .ok i () := by
  unfold not
  rw [hp]
  cases o with
  | none => rfl
  | some q =>
    obtain ⟨v, r⟩ := q
    rfl

theorem prefixVerbatim_eq (i : Bytes) : prefixVerbatim i = liftO (TP.prefixVerbatim i) := by
  unfold prefixVerbatim TP.prefixVerbatim
  rw [not_liftO _ i _ (prefixVerbatimDisk_eq i)]
  by_cases hd : (TP.prefixVerbatimDisk i).isSome = true
  · simp [hd, Res.bind, liftO]
  · simp only [hd, Bool.false_eq_true, if_false, Res.bind]
    rw [not_liftO _ i _ (prefixVerbatimUNC_eq i)]
    by_cases hu : (TP.prefixVerbatimUNC i).isSome = true
    · simp [hu, liftO]
    · simp only [hu, Bool.false_eq_true, if_false, verbatim_eq]
      cases h1 : verbatimHdr i with
      | none => simp [liftO]
      | some r1 =>
        simp only [anyOf, normalBytes_eq, map, peek, separator_takeSep]
        cases h2 : takeNormal (!startsWith i VERB) r1 with
        | some p =>
          obtain ⟨nm, r⟩ := p
          simp [liftO]
        | none =>
          simp only [liftO, Res.bind]
          cases h3 : takeSep (!startsWith i VERB) r1 with
          | none => simp
          | some r3 => simp

theorem prefixDeviceNS_eq (i : Bytes) : prefixDeviceNS i = liftO (TP.prefixDeviceNS i) := by
  unfold prefixDeviceNS
  rw [hdr_bind]
  rcases i with _ | ⟨a, _ | ⟨b, _ | ⟨q, _ | ⟨c, r⟩⟩⟩⟩ <;> try rfl
  simp only [TP.prefixDeviceNS, map, normalBytes_eq, anySep]
  by_cases h : (wsep true a && wsep true b && q = DOT && wsep true c) = true <;> simp only [h] <;> try rfl
  cases takeNormal true r <;> rfl

theorem prefixUNC_eq (i : Bytes) : prefixUNC i = liftO (TP.prefixUNC i) := by
  unfold prefixUNC
  simp only [serverShare_eq, sep_bind]
  rcases i with _ | ⟨a, _ | ⟨b, r⟩⟩
  · rfl
  · simp only
    split <;> rfl
  · simp only [TP.prefixUNC]
    by_cases ha : wsep true a = true
    · by_cases hb : wsep true b = true
      · have hab : (anySep a && anySep b) = true := by simp [anySep, ha, hb]
        simp only [ha, hb, hab, if_true]
        cases serverShare true r <;> rfl
      · have hab : ¬ (anySep a && anySep b) = true := by simp [anySep, hb]
        simp only [ha, hb, hab, if_true]
        rfl
    · have hab : ¬ (anySep a && anySep b) = true := by simp [anySep, ha]
      simp only [ha, hab]
      rfl

theorem prefixDisk_eq (i : Bytes) : prefixDisk i = liftO (TP.prefixDisk i) := by
  unfold prefixDisk TP.prefixDisk
  simp only [map, diskByte_eq]
  cases h : TP.diskByte i with
  | none => simp [liftO, Res.bind]
  | some p =>
    obtain ⟨d, r⟩ := p
    simp [liftO, Res.bind]

theorem anyOf_single_liftO {α : Type} (p : P α) (f : Bytes → Option (α × Bytes)) (hp : ∀ i, p i = liftO (f i))
    (i : Bytes) : anyOf [p] i = liftO (f i) := by
  simp only [anyOf, hp]
  cases f i <;> rfl

theorem anyOf_cons_liftO {α : Type} (p : P α) (ps : List (P α)) (f g : Bytes → Option (α × Bytes))
    (hp : ∀ i, p i = liftO (f i)) (h : ∀ i, anyOf ps i = liftO (g i)) (i : Bytes) :
    anyOf (p :: ps) i = liftO ((f i).orElse fun _ => g i) := by
  simp only [anyOf, hp, h]
  cases f i <;> rfl

theorem pfx_eq (i : Bytes) : pfx i = liftO (parsePrefix i) :=
  anyOf_cons_liftO _ _ _ _ prefixVerbatimUNC_eq (anyOf_cons_liftO _ _ _ _ prefixVerbatimDisk_eq
    (anyOf_cons_liftO _ _ _ _ prefixVerbatim_eq (anyOf_cons_liftO _ _ _ _ prefixDeviceNS_eq
      (anyOf_cons_liftO _ _ _ _ prefixUNC_eq (anyOf_single_liftO _ _ prefixDisk_eq))))) i

/-- `prefix_component`: the length subtraction and the slice are in range -/
theorem prefixComponent_eq (i : Bytes) : prefixComponent i = liftO (parsePrefixComp i) := by
  unfold prefixComponent parsePrefixComp
  rw [pfx_eq]
  cases h : parsePrefix i with
  | none => simp [liftO, Res.bind]
  | some p =>
    obtain ⟨k, rest⟩ := p
    obtain ⟨q, hq⟩ := parsePrefix_suffix h
    have hle : rest.length ≤ i.length := by rw [hq]; simp
    have hle2 : i.length - rest.length ≤ i.length := by omega
    simp [liftO, Res.bind, checkedSub, sliceTo, hle, hle2]

end TP.Comb.Windows
