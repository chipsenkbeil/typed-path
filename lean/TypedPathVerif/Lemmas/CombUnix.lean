/-
Lemmas/CombUnix.lean — the byte-level Unix parsers (`Model/Comb/Unix.lean`): which one-token
parser (`Lemmas/CombTok.lean`) each front parser is, on every input; hence, on the bytes of a
well-formed token list, `parse_front` and `parse_back` (an instance of `Lemmas/CombBack.lean`)
equal the token-level `frontT` and `backT` of `Model/Parser.lean`, and none faults.
-/
import TypedPathVerif.Lemmas.CombBack

namespace TP.Comb

namespace Unix

theorem dot_not_sep : usep DOT = false := by decide

theorem separator_eq : separator = tokP usep (sepC ()) := by
  funext i
  rw [separator, byte_eq]
  cases i with
  | nil => rfl
  | cons x r => by_cases h : x = SLASH <;> simp [tokP, sepC, usep, h, ofOpt, Res.bind]

theorem rootDir_eq : rootDir = tokP usep (sepC .root) := by
  rw [← sepC_map () fun _ => Comp.root, ← map_tokP, ← separator_eq]
  rfl

theorem boundary_eq (i : Bytes) :
    anyOf [empty, peek separator] i = if atBoundary usep i = true then .ok i () else .err := by
  cases i with
  | nil => rfl
  | cons x r =>
    by_cases h : x = SLASH <;> simp [anyOf, empty, peek, separator, byte_eq, atBoundary, usep, Res.bind, h]

theorem dot_eq (pat : Bytes) (c : Comp) (hne : pat ≠ []) (hns : ∀ y ∈ pat, usep y = false) (i : Bytes) :
    ((suffixed (bytes pat) (anyOf [empty, peek separator]) i).bind fun i _ => .ok i c) =
      tokP usep (segC (isPat pat c)) i := by
  rw [← dots_eq_tokP usep pat c hne hns, suffixed]
  cases bytes pat i with
  | ok i v => by_cases hb : atBoundary usep i = true <;> simp [Res.bind, boundary_eq, hb]
  | err => rfl
  | fault f => rfl

theorem curDir_eq : curDir = tokP usep (segC (isPat CUR .cur)) :=
  funext (dot_eq CUR .cur (by decide) (by decide))

theorem parentDir_eq : parentDir = tokP usep (segC (isPat PAR .parent)) :=
  funext (dot_eq PAR .parent (by decide) (by decide))

theorem normal_eq : normal = tokP usep (segC fun s => some (.normal s)) := funext normal_eq_tokP

theorem head_atBeg : anyOf [rootDir, parentDir, curDir, normal] = tokP usep (headC true false) := by
  rw [rootDir_eq, parentDir_eq, curDir_eq, normal_eq,
    anyOf_cons_tokP _ _ _ (anyOf_cons_tokP _ _ _ (anyOf_cons_tokP _ _ _ (anyOf_cons_tokP _ _ _ anyOf_nil_tokP)))]
  congr 1
  funext t
  cases t with
  | sep x => rfl
  | seg s => simpa [sepC, segC, headC] using segComp_alts true s

theorem head_notBeg : anyOf [parentDir, normal] = tokP usep (headC false false) := by
  rw [parentDir_eq, normal_eq, ← fileC_eq false]
  simp only [Bool.false_eq_true, if_false, Option.orElse_none]
  exact anyOf_cons_tokP _ _ _ (anyOf_cons_tokP _ _ _ anyOf_nil_tokP)

/-- the parser under `zero_or_more` in `move_front_to_next`: one junk token -/
def junkP : P Unit := anyOf [separator, map curDir (fun _ => ())]

theorem junkP_eq : junkP = tokP usep (junkC false) := by
  rw [junkP, separator_eq, curDir_eq, map_tokP, ← junkC_eq]
  exact anyOf_cons_tokP _ _ _ (anyOf_cons_tokP _ _ _ anyOf_nil_tokP)

/-- PROGRESS: the parser under `zero_or_more` consumes at least one byte whenever it succeeds
(this is what makes the Rust loop terminate) -/
theorem junkP_progress {ts : List Tok} (hw : WFToks usep ts) {i' : Bytes} {v : Unit}
    (h : junkP (untoks ts) = .ok i' v) : i'.length < (untoks ts).length := by
  rw [junkP_eq] at h
  exact tokP_progress _ h

theorem moveFrontToNext_toks {ts : List Tok} (hw : WFToks usep ts) :
    moveFrontToNext (untoks ts) = .ok (untoks (skipFront false ts)) () := by
  rw [moveFrontToNext, ← junkP, junkP_eq, skipMany_toks _ hw, junkC_isSome]
  rfl

theorem parseFront_toks (atBeg : Bool) {ts : List Tok} (hw : WFToks usep ts) :
    parseFront atBeg (untoks ts) = match frontT false atBeg ts with
      | some (c, ts') => .ok (untoks ts') c
      | none => .err := by
  cases atBeg
  · exact G.parseFront_toks head_notBeg moveFrontToNext_toks hw
  · exact G.parseFront_toks head_atBeg moveFrontToNext_toks hw

theorem isSuffixOf_slash (n : Bytes) : [SLASH].isSuffixOf n = endsSep usep n := by
  rcases List.eq_nil_or_concat n with rfl | ⟨a, y, rfl⟩
  · rfl
  · rw [List.concat_eq_append, isSuffixOf_singleton_snoc, endsSep_snoc]
    rfl

theorem moveBackLoop_eq : moveBackLoop = G.moveBackLoop usep true := by
  funext fuel
  induction fuel with
  | zero => rfl
  | succ f ih =>
    funext i
    simp only [moveBackLoop, G.moveBackLoop, ih, isSuffixOf_slash]
    rfl

theorem moveBackToNext_toks {ts : List Tok} (hw : WFToks usep ts) :
    moveBackToNext (untoks ts) = .ok (untoks (skipBack false ts)) () := by
  unfold moveBackToNext
  rw [moveBackLoop_eq]
  exact G.moveBackToNext_toks true hw

theorem parseBack_toks (atBeg : Bool) {ts : List Tok} (hw : WFToks usep ts) :
    parseBack atBeg (untoks ts) = match backT false atBeg ts with
      | some (c, ts') => .ok (untoks ts') c
      | none => .err :=
  G.parseBack_toks (fun h => moveBackToNext_toks h) (fun h => parseFront_toks atBeg h)
    head_notBeg rootDir_eq curDir_eq hw

end Unix

end TP.Comb
