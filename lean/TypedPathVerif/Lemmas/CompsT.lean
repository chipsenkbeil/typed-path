/-
Lemmas/CompsT.lean — what a token list holds, in closed form.  `segComp` classifies one segment;
`body` lists the components of tokens that are not at the beginning of the path; `compsT` those of
tokens that may be.  A token that is not skipped is read as if it stood first (`tokComp_eq`), so
every component of a segment is `segComp true` of it.  Junk skipping at either end leaves `body`
alone; `compsT` is left alone by what a back step trims (`compsT_trimBack`: at the beginning the
first token stays), and the last non-junk segment is the last component.
-/
import TypedPathVerif.Model.Parser

namespace TP

/-! ### `segComp` and `headComp` -/

theorem segComp_cases (c : Bool) (s : Bytes) :
    (segComp c s = .parent ∧ s = PAR) ∨ (segComp c s = .cur ∧ s = CUR) ∨ segComp c s = .normal s := by
  unfold segComp
  split
  · rename_i h
    exact .inl ⟨rfl, h⟩
  · split
    · rename_i h
      exact .inr (.inl ⟨rfl, h.1⟩)
    · exact .inr (.inr rfl)

theorem segComp_eq_normal (c : Bool) {s : Bytes} (hc : s ≠ CUR) (hp : s ≠ PAR) : segComp c s = .normal s := by
  rcases segComp_cases c s with h | h | h
  · exact absurd h.2 hp
  · exact absurd h.2 hc
  · exact h

theorem bytes_segComp (e : Enc) (c : Bool) (s : Bytes) : (segComp c s).bytes e = s := by
  rcases segComp_cases c s with ⟨h, rfl⟩ | ⟨h, rfl⟩ | h <;> rw [h] <;> rfl

theorem segComp_normal {c : Bool} {s f : Bytes} (h : segComp c s = .normal f) : s = f :=
  (bytes_segComp .unix c s).symm.trans (congrArg (Comp.bytes .unix) h)

theorem segComp_ne (c : Bool) (s : Bytes) : segComp c s ≠ .root ∧ ∀ p, segComp c s ≠ .pfx p := by
  rcases segComp_cases c s with h | h | h
  · rw [h.1]
    exact ⟨nofun, fun _ => nofun⟩
  · rw [h.1]
    exact ⟨nofun, fun _ => nofun⟩
  · rw [h]
    exact ⟨nofun, fun _ => nofun⟩

theorem junk_seg_false_iff {k : Bool} {s : Bytes} : junk k (.seg s) = false ↔ (k = true ∨ s ≠ CUR) := by
  cases k <;> simp [junk]

theorem junk_seg_of_ne {k : Bool} {s : Bytes} (h : s ≠ CUR) : junk k (.seg s) = false :=
  junk_seg_false_iff.mpr (.inr h)

theorem ne_cur_of_not_junk {s : Bytes} (h : junk false (.seg s) = false) : s ≠ CUR :=
  (junk_seg_false_iff.mp h).resolve_left Bool.noConfusion

theorem segComp_of_not_junk {k : Bool} {s : Bytes} (h : junk k (.seg s) = false) :
    segComp true s = segComp k s := by
  cases k with
  | true => rfl
  | false => simp [segComp, ne_cur_of_not_junk h]

theorem headComp_ne_pfx (t : Tok) (p : PrefixComp) : headComp t ≠ .pfx p := by
  cases t with
  | sep x => exact Comp.noConfusion
  | seg s => exact (segComp_ne true s).2 p

theorem headComp_eq_root {t : Tok} : headComp t = .root ↔ ∃ x, t = .sep x := by
  cases t with
  | sep x => exact ⟨fun _ => ⟨x, rfl⟩, fun _ => rfl⟩
  | seg s => exact ⟨fun h => absurd h (segComp_ne true s).1, fun ⟨_, h⟩ => nomatch h⟩

/-! ### `body` -/

/-- The components of a token list that is *not* at the beginning of the path: every
non-junk segment, classified. -/
def tokComp (k : Bool) : Tok → Option Comp
  | .sep _ => none
  | .seg s => if junk k (.seg s) then none else some (segComp k s)

def body (k : Bool) (ts : List Tok) : List Comp := ts.filterMap (tokComp k)

/-- A token that is not skipped is read as if it stood first: the flag only decides whether a `.` is
skipped. -/
theorem tokComp_eq (k : Bool) (t : Tok) : tokComp k t = if junk k t then none else some (headComp t) := by
  cases t with
  | sep x => rfl
  | seg s =>
    cases hj : junk k (.seg s) with
    | true => simp [tokComp, hj]
    | false => simp [tokComp, hj, headComp, segComp_of_not_junk hj]

@[simp] theorem body_nil (k : Bool) : body k [] = [] := rfl

theorem body_append (k : Bool) (a b : List Tok) : body k (a ++ b) = body k a ++ body k b := by
  simp [body, List.filterMap_append]

theorem body_cons_junk {k : Bool} {t : Tok} (ts : List Tok) (h : junk k t = true) :
    body k (t :: ts) = body k ts := by
  simp [body, tokComp_eq, h]

theorem body_cons_seg {k : Bool} {s : Bytes} (ts : List Tok) (h : junk k (.seg s) = false) :
    body k (.seg s :: ts) = segComp true s :: body k ts := by
  simp [body, tokComp_eq, h, headComp]

theorem body_all_junk {k : Bool} {ts : List Tok} (h : ∀ t ∈ ts, junk k t = true) : body k ts = [] := by
  refine List.filterMap_eq_nil_iff.mpr fun t ht => ?_
  rw [tokComp_eq, h t ht]
  rfl

theorem mem_body {k : Bool} {ts : List Tok} {c : Comp} :
    c ∈ body k ts ↔ ∃ s, Tok.seg s ∈ ts ∧ junk k (.seg s) = false ∧ c = segComp true s := by
  simp only [body, List.mem_filterMap, tokComp_eq]
  constructor
  · rintro ⟨t, ht, hc⟩
    cases t with
    | sep x => cases hc
    | seg s =>
      cases hj : junk k (.seg s) with
      | true =>
        rw [hj] at hc
        cases hc
      | false =>
        rw [hj] at hc
        exact ⟨s, ht, hj, (Option.some.inj hc).symm⟩
  · rintro ⟨s, hs, hj, rfl⟩
    refine ⟨.seg s, hs, ?_⟩
    rw [hj]
    rfl

theorem body_length_le (k : Bool) (ts : List Tok) : (body k ts).length ≤ ts.length := by
  unfold body
  exact List.length_filterMap_le _ _

theorem body_flag_irrelevant (ts : List Tok) (h : ∀ s, Tok.seg s ∈ ts → s ≠ CUR) :
    body true ts = body false ts := by
  induction ts with
  | nil => rfl
  | cons t r ih =>
    have ihr := ih (fun s hs => h s (List.mem_cons_of_mem _ hs))
    cases t with
    | sep x => rw [body_cons_junk r rfl, body_cons_junk r rfl, ihr]
    | seg s =>
      have hs := h s (List.mem_cons_self ..)
      rw [body_cons_seg r (junk_seg_of_ne hs), body_cons_seg r (junk_seg_of_ne hs), ihr]

theorem body_skipFront (k : Bool) (ts : List Tok) : body k (skipFront k ts) = body k ts := by
  induction ts with
  | nil => rfl
  | cons t ts ih =>
    unfold skipFront at *
    simp only [List.dropWhile_cons]
    split
    · rename_i h
      rw [ih, body_cons_junk ts h]
    · rfl

theorem body_skipBack (k : Bool) (ts : List Tok) : body k (skipBack k ts) = body k ts := by
  obtain ⟨j, hj, hjunk⟩ := skipBack_split k ts
  conv => rhs; rw [hj]
  rw [body_append, body_all_junk hjunk, List.append_nil]

/-- `ts` does not start with a junk token -/
def noLeadJunk (k : Bool) : List Tok → Prop
  | [] => True
  | t :: _ => junk k t = false

theorem noLeadJunk_skipFront (k : Bool) (ts : List Tok) : noLeadJunk k (skipFront k ts) := by
  induction ts with
  | nil => simp [skipFront, noLeadJunk]
  | cons t ts ih =>
    unfold skipFront at *
    simp only [List.dropWhile_cons]
    split
    · exact ih
    · rename_i h
      simpa [noLeadJunk] using h

theorem noLeadJunk_of_append {k : Bool} {a b : List Tok} (h : noLeadJunk k (a ++ b)) : noLeadJunk k a := by
  cases a with
  | nil => trivial
  | cons x a => simpa [noLeadJunk] using h

/-! ### `compsT` -/

/-- forward components of a token list, in closed form -/
def compsT (k atBeg : Bool) (ts : List Tok) : List Comp :=
  if atBeg then
    match ts with
    | [] => []
    | .sep _ :: r => .root :: body k r
    | .seg s :: r => segComp true s :: body k r
  else body k ts

theorem compsT_true_cons (k : Bool) (t : Tok) (r : List Tok) :
    compsT k true (t :: r) = headComp t :: body k r := by
  cases t <;> simp [compsT, headComp]

theorem compsT_false (k : Bool) (ts : List Tok) : compsT k false ts = body k ts := rfl

@[simp] theorem compsT_nil (k atBeg : Bool) : compsT k atBeg [] = [] := by
  cases atBeg <;> rfl

theorem compsT_true_eq_nil {k : Bool} {ts : List Tok} : compsT k true ts = [] ↔ ts = [] := by
  cases ts <;> simp [compsT_true_cons]

theorem compsT_head_root_iff {k : Bool} {ts : List Tok} :
    (compsT k true ts).head? = some .root ↔ ∃ y r, ts = .sep y :: r := by
  cases ts with
  | nil => exact ⟨fun h => (nomatch h), fun ⟨_, _, h⟩ => (nomatch h)⟩
  | cons t r =>
    rw [compsT_true_cons, List.head?_cons, Option.some.injEq, headComp_eq_root]
    exact ⟨fun ⟨y, h⟩ => ⟨y, r, h ▸ rfl⟩, fun ⟨y, _, h⟩ => ⟨y, (List.cons.inj h).1⟩⟩

theorem compsT_length_le (k : Bool) (ts : List Tok) : (compsT k true ts).length ≤ ts.length := by
  cases ts with
  | nil => simp
  | cons t r =>
    rw [compsT_true_cons]
    have := body_length_le k r
    simp only [List.length_cons]
    omega

theorem compsT_flag_irrelevant (ts : List Tok) (h : ∀ s, Tok.seg s ∈ ts → s ≠ CUR) :
    compsT true true ts = compsT false true ts := by
  cases ts with
  | nil => simp
  | cons t r =>
    rw [compsT_true_cons, compsT_true_cons, body_flag_irrelevant r (fun s hs => h s (by simp [hs]))]

theorem mem_compsT {k atBeg : Bool} {ts : List Tok} {c : Comp} (h : c ∈ compsT k atBeg ts) :
    c = .root ∨ ∃ s, Tok.seg s ∈ ts ∧ c = segComp true s := by
  have hb : ∀ {r : List Tok}, c ∈ body k r → ∃ s, Tok.seg s ∈ r ∧ c = segComp true s :=
    fun hc => (mem_body.mp hc).imp fun _ ⟨hs, _, e⟩ => ⟨hs, e⟩
  cases atBeg with
  | false => exact .inr (hb h)
  | true =>
    cases ts with
    | nil => simp at h
    | cons t r =>
      rw [compsT_true_cons] at h
      rcases List.mem_cons.mp h with rfl | h
      · cases t with
        | sep x => exact .inl rfl
        | seg s => exact .inr ⟨s, List.mem_cons_self .., rfl⟩
      · obtain ⟨s, hs, e⟩ := hb h
        exact .inr ⟨s, List.mem_cons_of_mem _ hs, e⟩

theorem compsT_noPfx (k : Bool) (ts : List Tok) : ∀ c ∈ compsT k true ts, c.isPfx = false := by
  intro c hc
  rcases mem_compsT hc with rfl | ⟨s, _, rfl⟩
  · rfl
  · cases h : segComp true s with
    | pfx p => exact absurd h ((segComp_ne true s).2 p)
    | _ => rfl

theorem compsT_append {k atBeg : Bool} {a : List Tok} (b : List Tok) (h : atBeg = false ∨ a ≠ []) :
    compsT k atBeg (a ++ b) = compsT k atBeg a ++ body k b := by
  cases atBeg with
  | false => rw [compsT_false, compsT_false, body_append]
  | true =>
    cases a with
    | nil => simp at h
    | cons t r => simp [compsT_true_cons, body_append]

theorem compsT_lastSeg {k atBeg : Bool} (r : List Tok) {s : Bytes} {j : List Tok}
    (hs : junk k (.seg s) = false) (hj : ∀ t ∈ j, junk k t = true) :
    compsT k atBeg (r ++ .seg s :: j) = compsT k atBeg r ++ [segComp true s] := by
  by_cases h : atBeg = false ∨ r ≠ []
  · rw [compsT_append _ h, body_cons_seg j hs, body_all_junk hj]
  · have h1 : atBeg = true := by
      cases atBeg
      · exact absurd (.inl rfl) h
      · rfl
    have h2 : r = [] := by
      cases r
      · rfl
      · exact absurd (.inr (by simp)) h
    subst h1
    subst h2
    simp [compsT_true_cons, headComp, body_all_junk hj]

theorem compsT_trimBack (k atBeg : Bool) (r : List Tok) :
    compsT k atBeg (trimBack k atBeg r) = compsT k atBeg r := by
  cases atBeg with
  | false => simp [trimBack, compsT_false, body_skipBack]
  | true =>
    obtain ⟨q, hq, hj⟩ := trimBack_split k true r
    cases r with
    | nil => simp [trimBack, skipBack]
    | cons t r0 =>
      -- the first token survives, and only junk is lost behind it
      cases htb : trimBack k true (t :: r0) with
      | nil =>
        unfold trimBack at htb
        split at htb
        · simp at htb
        · rename_i hc
          exact absurd ⟨rfl, htb⟩ hc
      | cons t' r' =>
        rw [htb, List.cons_append, List.cons.injEq] at hq
        rw [← hq.1, compsT_true_cons, compsT_true_cons, hq.2, body_append, body_all_junk hj,
          List.append_nil]

/-- Tokens that do not start with junk read the same whether or not they are at the beginning of the
path: under the state invariant (`PState.Inv`) a state reads as its own remaining tokens read as a
fresh path.  This is law (R) on tokens. -/
theorem compsT_of_inv {k atBeg : Bool} {ts : List Tok} (h : atBeg = true ∨ noLeadJunk k ts) :
    compsT k atBeg ts = compsT k true ts := by
  cases atBeg with
  | true => rfl
  | false =>
    have hn : noLeadJunk k ts := h.resolve_left (by simp)
    cases ts with
    | nil => simp
    | cons t r =>
      cases t with
      | sep x => cases hn
      | seg s =>
        have hs : junk k (.seg s) = false := hn
        rw [compsT_false, body_cons_seg r hs, compsT_true_cons, headComp]

end TP
