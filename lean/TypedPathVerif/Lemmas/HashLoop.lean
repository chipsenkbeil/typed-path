/-
Lemmas/HashLoop.lean — the index loop of `Encoding::hash` (`Model/Path.lean: hashBody`) equals a
description on TOKENS: one chunk per segment token, except a `.` segment that follows a separator
(when `.` is skipped), then the number of bytes written.

The loop changes its state only at separator indices, and `List.range'` splits over `++`: so the fold
is taken one TOKEN at a time (`fold_toks`).  The indices of a segment leave the state alone
(`foldl_run`); a separator gives the whole new state in one equation (`hashStep_sep`).  What has to be
known at a token boundary is where `component_start` stands (`StartOK`); the bytes not yet written
are then those from `component_start` on.
-/
import TypedPathVerif.Lemmas.TokBytes
import TypedPathVerif.Model.Path

namespace TP.HashLoop

open TP.Comb

/-- does a `.` to be skipped come next? (`[b'.']` or `[b'.', sep, ..]`) -/
def extraOf (skipDot : Bool) (dotSep : UInt8 → Bool) (xs : Bytes) : Nat :=
  if skipDot then
    match xs with
    | [d] => if d = DOT then 1 else 0
    | d :: s :: _ => if d = DOT ∧ dotSep s = true then 1 else 0
    | _ => 0
  else 0

/-- the chunks: every segment, except a `.` segment directly after a separator when `.` is skipped -/
def tokTexts (skipDot : Bool) : Bool → List Tok → List Bytes
  | _, [] => []
  | _, .sep _ :: r => tokTexts skipDot true r
  | afterSep, .seg s :: r => (if skipDot && afterSep && s == [DOT] then [] else [s]) ++ tokTexts skipDot false r

def pend (cur : Bytes) : List Bytes := if cur ≠ [] then [cur] else []

def total (l : List Bytes) : Nat := (l.map List.length).sum

theorem total_append (a b : List Bytes) : total (a ++ b) = total a + total b := by
  simp [total]

/-- what a hasher has received once `l` is written after `out` (`hashed` bytes so far) and the loop
ends: the chunks, then their total length -/
def emit (out : List Bytes) (hashed : Nat) (l : List Bytes) : List Bytes :=
  out ++ l ++ [usizeChunk (hashed + total l)]

theorem emit_append (out : List Bytes) (hashed : Nat) (a l : List Bytes) :
    emit (out ++ a) (hashed + total a) l = emit out hashed (a ++ l) := by
  simp only [emit, total_append, List.append_assoc, Nat.add_assoc]

theorem pend_drop (b : Bytes) (n : Nat) : pend (b.drop n) = if n < b.length then [b.drop n] else [] := by
  unfold pend
  by_cases h : n < b.length
  · simp [h]
  · simp [h, Nat.le_of_not_lt h]

theorem pend_drop_nil {b : Bytes} {n : Nat} (h : b.length ≤ n) : pend (b.drop n) = [] := by
  rw [pend_drop, if_neg (by omega)]

/-- what `hashBody` does after the loop: the bytes from `component_start` on, if any, then the count -/
def flush (bytes : Bytes) (st : HashSt) : List Bytes := emit st.out st.hashed (pend (bytes.drop st.start))

section
variable (isSep : UInt8 → Bool) (skipDot : Bool) (dotSep : UInt8 → Bool)

theorem hashBody_eq_flush (bytes : Bytes) (pre : List Bytes) :
    hashBody isSep skipDot dotSep bytes pre =
      flush bytes ((List.range' 0 bytes.length).foldl (hashStep isSep skipDot dotSep bytes) ⟨0, 0, pre⟩) := by
  unfold hashBody flush emit
  simp only [pend_drop, List.range_eq_range']
  split <;> simp [total]

/-- a separator at index `done.length`: the pending bytes are written, `component_start` moves on -/
theorem hashStep_sep {done xs : Bytes} {x : UInt8} (st : HashSt) (hx : isSep x = true)
    (hst : st.start ≤ done.length) :
    hashStep isSep skipDot dotSep (done ++ x :: xs) st done.length =
      ⟨done.length + 1 + extraOf skipDot dotSep xs, st.hashed + total (pend (done.drop st.start)),
        st.out ++ pend (done.drop st.start)⟩ := by
  have hg : (done ++ x :: xs).getD done.length 0 = x := by simp [List.getD]
  have hd : (done ++ x :: xs).drop (done.length + 1) = xs := by
    rw [show done ++ x :: xs = (done ++ [x]) ++ xs by simp]
    exact List.drop_left' (by simp)
  have hseg : ((done ++ x :: xs).drop st.start).take (done.length - st.start) = done.drop st.start := by
    rw [List.drop_append_of_le_length hst]
    exact List.take_left' (by simp)
  unfold hashStep
  simp only [hg, hx, if_true, hd, hseg, gt_iff_lt, pend_drop]
  -- the `match` of `hashStep` and that of `extraOf` are different constants: `rfl` sees through both
  by_cases hlt : st.start < done.length
  · simp only [hlt, if_true, total, List.map_cons, List.map_nil, List.sum_cons, List.sum_nil, Nat.add_zero]
    rfl
  · simp only [hlt, if_false, total, List.map_nil, List.sum_nil, Nat.add_zero, List.append_nil]
    rfl

theorem foldl_run (bytes : Bytes) (st : HashSt) : ∀ (s done rest : Bytes), bytes = done ++ s ++ rest →
    (∀ y ∈ s, isSep y = false) →
    (List.range' done.length s.length).foldl (hashStep isSep skipDot dotSep bytes) st = st
  | [], _, _, _, _ => rfl
  | y :: s, done, rest, hb, hs => by
    have hg : bytes.getD done.length 0 = y := by
      rw [hb]
      simp [List.getD]
    have h1 : hashStep isSep skipDot dotSep bytes st done.length = st := by
      unfold hashStep
      rw [hg, hs y (by simp)]
      rfl
    rw [List.length_cons, List.range'_succ, List.foldl_cons, h1]
    have := foldl_run bytes st s (done ++ [y]) rest (by rw [hb]; simp) (fun z hz => hs z (by simp [hz]))
    rwa [List.length_append, List.length_singleton] at this

end

section
variable {isSep : UInt8 → Bool} {skipDot : Bool} {dotSep : UInt8 → Bool}

/-- whether the loop decides to skip the segment that comes next -/
theorem extraOf_toks (hdotns : isSep DOT = false) (hsame : skipDot = true → ∀ y, dotSep y = isSep y)
    {r : List Tok} (hw : WFToks isSep r) :
    extraOf skipDot dotSep (untoks r) = match r with
      | .seg s :: _ => if (skipDot && true && s == [DOT]) = true then 1 else 0
      | _ => 0 := by
  cases hsd : skipDot with
  | false =>
    cases r with
    | nil => rfl
    | cons t r => cases t <;> simp [extraOf]
  | true =>
    obtain rfl : dotSep = isSep := funext (hsame hsd)
    match r, hw with
    | [], _ => rfl
    | .sep x :: r', hw =>
      have hx : x ≠ DOT := fun h => by
        have := hw.1
        rw [h, hdotns] at this
        cases this
      simp only [untoks, Tok.bytes, List.singleton_append, extraOf, if_true]
      cases untoks r' <;> simp [hx]
    | .seg [d] :: r', ⟨_, _, hhead, hwr⟩ =>
      rcases untoks_notSegHead hwr hhead with h0 | ⟨x, t', h0, hx⟩ <;>
        simp [extraOf, untoks, Tok.bytes, *]
    | .seg (d :: c :: t) :: r', ⟨_, hfree, _, _⟩ =>
      have := hfree c (by simp)
      simp [extraOf, untoks, Tok.bytes, this]

/-- where `component_start` stands at a token boundary (`n` bytes read): on it, or one further when
the `.` that comes next is being skipped; behind it (a finished segment is pending) only if no
segment comes next -/
def StartOK (skipDot afterSep : Bool) (start n : Nat) : List Tok → Prop
  | .seg s :: _ => start = n + if (skipDot && afterSep && s == [DOT]) = true then 1 else 0
  | _ => start ≤ n

theorem StartOK_of_notSegHead {skipDot afterSep : Bool} {start n : Nat} {r : List Tok} (hr : notSegHead r)
    (h : start ≤ n) : StartOK skipDot afterSep start n r := by
  match r, hr with
  | [], _ => exact h
  | .sep _ :: _, _ => exact h

theorem extraOf_startOK (hdotns : isSep DOT = false) (hsame : skipDot = true → ∀ y, dotSep y = isSep y)
    {r : List Tok} (hw : WFToks isSep r) (n : Nat) :
    StartOK skipDot true (n + extraOf skipDot dotSep (untoks r)) n r := by
  rw [extraOf_toks hdotns hsame hw]
  match r with
  | [] => exact Nat.le_refl _
  | .sep _ :: _ => exact Nat.le_refl _
  | .seg _ :: _ => rfl

/-- the index loop from a token boundary on: `done` has been read, the tokens `ts` remain -/
theorem fold_toks (hdotns : isSep DOT = false) (hsame : skipDot = true → ∀ y, dotSep y = isSep y)
    (bytes : Bytes) : ∀ (ts : List Tok), WFToks isSep ts → ∀ (done : Bytes) (st : HashSt) (afterSep : Bool),
      bytes = done ++ untoks ts → StartOK skipDot afterSep st.start done.length ts →
      flush bytes ((List.range' done.length (untoks ts).length).foldl (hashStep isSep skipDot dotSep bytes) st) =
        emit st.out st.hashed (pend (done.drop st.start) ++ tokTexts skipDot afterSep ts)
  | [], _, done, st, _, hb, _ => by
    rw [hb]
    simp [flush, untoks, tokTexts]
  | .sep x :: r, hw, done, st, afterSep, hb, hst => by
    simp only [untoks, Tok.bytes, List.singleton_append] at hb
    have hstep := hashStep_sep isSep skipDot dotSep (xs := untoks r) st hw.1 hst
    rw [← hb] at hstep
    have ih := fold_toks hdotns hsame bytes r hw.2 (done ++ [x])
      (hashStep isSep skipDot dotSep bytes st done.length) true (by rw [hb]; simp)
      (by rw [hstep, List.length_append]; exact extraOf_startOK hdotns hsame hw.2 _)
    -- after a separator nothing is pending
    have hnil : pend ((done ++ [x]).drop (done.length + 1 + extraOf skipDot dotSep (untoks r))) = [] :=
      pend_drop_nil (by simp)
    conv at ih => rhs; rw [hstep]
    simp only [hnil, List.nil_append, emit_append, List.length_append, List.length_singleton] at ih
    simp only [untoks, Tok.bytes, List.singleton_append, List.length_cons, List.range'_succ, List.foldl_cons,
      tokTexts, ih]
  | .seg s :: r, ⟨hne, hfree, hhead, hwr⟩, done, st, afterSep, hb, hst => by
    simp only [untoks, Tok.bytes] at hb
    have hpos : 0 < s.length := List.length_pos_iff.mpr hne
    have hst : st.start = done.length + if (skipDot && afterSep && s == [DOT]) = true then 1 else 0 := hst
    have ih := fold_toks hdotns hsame bytes r hwr (done ++ s) st false (by rw [hb]; simp)
      (StartOK_of_notSegHead hhead (by rw [List.length_append, hst]; split <;> omega))
    -- nothing is pending before the segment; after it, the segment is, unless it is the skipped `.`
    have hd0 : pend (done.drop st.start) = [] := pend_drop_nil (by omega)
    have hd1 : pend ((done ++ s).drop st.start) = if (skipDot && afterSep && s == [DOT]) = true then [] else [s] := by
      by_cases hsk : (skipDot && afterSep && s == [DOT]) = true
      · rw [if_pos hsk] at hst ⊢
        have : s = [DOT] := by
          simp only [Bool.and_eq_true, beq_iff_eq] at hsk
          exact hsk.2
        exact pend_drop_nil (by rw [hst, this]; simp)
      · rw [if_neg hsk] at hst ⊢
        rw [hst, Nat.add_zero, List.drop_left' rfl, pend, if_pos hne]
    rw [List.length_append, hd1] at ih
    simp only [untoks, Tok.bytes, List.length_append, tokTexts]
    rw [← List.range'_append_1, List.foldl_append,
      foldl_run isSep skipDot dotSep bytes st s done (untoks r) (by rw [hb]; simp) hfree, ih, hd0, List.nil_append]

end

/-- **the hash loop on tokens**: the chunks written are the prefix's, the token texts, the count -/
theorem hashBody_toks (isSep : UInt8 → Bool) (skipDot : Bool) (dotSep : UInt8 → Bool) (bytes : Bytes)
    (pre : List Bytes) (hdotns : isSep DOT = false) (hsame : skipDot = true → ∀ y, dotSep y = isSep y) :
    hashBody isSep skipDot dotSep bytes pre =
      pre ++ tokTexts skipDot false (toks isSep bytes) ++ [usizeChunk (total (tokTexts skipDot false (toks isSep bytes)))] := by
  have := fold_toks hdotns hsame bytes (toks isSep bytes) (WFToks_toks isSep bytes) [] ⟨0, 0, pre⟩ false
    (by simp [untoks_toks]) (by
      match toks isSep bytes with
      | [] => exact Nat.le_refl _
      | .sep _ :: _ => exact Nat.le_refl _
      | .seg _ :: _ => simp [StartOK])
  rw [untoks_toks, List.length_nil] at this
  rw [hashBody_eq_flush, this]
  simp [pend, emit]

end TP.HashLoop
