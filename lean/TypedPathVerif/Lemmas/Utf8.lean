/-
Lemmas/Utf8.lean — the two facts about UTF-8 the crate relies on: valid strings concatenate,
and a valid string can be cut next to any ASCII byte (an ASCII byte never occurs inside a
multi-byte character).  The byte classes of Spec/Utf8 are read as arithmetic on `toNat` once
(`isAscii_iff` … `ok4_nat`); every range argument after that is arithmetic on those readings.
Hence the tokens of a valid string are valid when every separator is ASCII (`toks_valid`); `validB`
decides `Valid` (`validB_iff`); at the end `IsChar`, the encoding of one character: one ASCII byte,
or a block without an ASCII byte (`IsChar.bytes`).
-/
import TypedPathVerif.Spec.Utf8
import TypedPathVerif.Lemmas.Toks

namespace TP.Utf8

theorem isAscii_iff {b : UInt8} : isAscii b = true ↔ b.toNat < 128 := by
  simp [isAscii, UInt8.lt_iff_toNat_lt]

theorem isCont_iff {b : UInt8} : isCont b = true ↔ 128 ≤ b.toNat ∧ b.toNat ≤ 191 := by
  simp [isCont, UInt8.le_iff_toNat_le]

theorem lead2_iff {b : UInt8} : lead2 b = true ↔ 194 ≤ b.toNat ∧ b.toNat ≤ 223 := by
  simp [lead2, UInt8.le_iff_toNat_le]

/-- three-byte forms: the lead byte's range, and no overlong form (`E0` needs a second byte from `A0`) -/
theorem ok3_nat {b0 b1 : UInt8} (h : ok3 b0 b1 = true) :
    224 ≤ b0.toNat ∧ b0.toNat ≤ 239 ∧ 128 ≤ b1.toNat ∧ (b0.toNat = 224 → 160 ≤ b1.toNat) := by
  simp only [ok3, Bool.or_eq_true, Bool.and_eq_true, decide_eq_true_eq, isCont_iff, UInt8.le_iff_toNat_le,
    ← UInt8.toNat_inj] at h
  simp at h
  omega

/-- four-byte forms: the lead byte's range, and no overlong form (`F0` needs a second byte from `90`) -/
theorem ok4_nat {b0 b1 : UInt8} (h : ok4 b0 b1 = true) :
    240 ≤ b0.toNat ∧ 128 ≤ b1.toNat ∧ (b0.toNat = 240 → 144 ≤ b1.toNat) := by
  simp only [ok4, Bool.or_eq_true, Bool.and_eq_true, decide_eq_true_eq, isCont_iff, UInt8.le_iff_toNat_le,
    ← UInt8.toNat_inj] at h
  simp at h
  omega

theorem not_ascii_of_ge {b : UInt8} (h : 128 ≤ b.toNat) : isAscii b = false :=
  Bool.eq_false_iff.mpr fun h' => Nat.not_lt.mpr h (isAscii_iff.mp h')

theorem lead2_false_of_ge {b : UInt8} (h : 224 ≤ b.toNat) : lead2 b = false :=
  Bool.eq_false_iff.mpr fun h' => Nat.not_lt.mpr h (Nat.lt_succ_of_le (lead2_iff.mp h').2)

theorem not_ascii_cont {b : UInt8} (h : isCont b = true) : isAscii b = false :=
  not_ascii_of_ge (isCont_iff.mp h).1

theorem not_ascii_lead2 {b : UInt8} (h : lead2 b = true) : isAscii b = false :=
  not_ascii_of_ge (Nat.le_trans (by decide) (lead2_iff.mp h).1)

theorem not_ascii_ok3 {b0 b1 : UInt8} (h : ok3 b0 b1 = true) : isAscii b0 = false ∧ isAscii b1 = false :=
  have h' := ok3_nat h
  ⟨not_ascii_of_ge (Nat.le_trans (by decide) h'.1), not_ascii_of_ge h'.2.2.1⟩

theorem not_ascii_ok4 {b0 b1 : UInt8} (h : ok4 b0 b1 = true) : isAscii b0 = false ∧ isAscii b1 = false :=
  have h' := ok4_nat h
  ⟨not_ascii_of_ge (Nat.le_trans (by decide) h'.1), not_ascii_of_ge h'.2.1⟩

theorem lead2_false_of_ok3 {b0 b1 : UInt8} (h : ok3 b0 b1 = true) : lead2 b0 = false :=
  lead2_false_of_ge (ok3_nat h).1

theorem lead2_false_of_ok4 {b0 b1 : UInt8} (h : ok4 b0 b1 = true) : lead2 b0 = false :=
  lead2_false_of_ge (Nat.le_trans (by decide) (ok4_nat h).1)

theorem ok3_false_of_ok4 {b0 b1 : UInt8} (h : ok4 b0 b1 = true) : ok3 b0 b1 = false :=
  Bool.eq_false_iff.mpr fun h' => Nat.not_lt.mpr (ok4_nat h).1 (Nat.lt_succ_of_le (ok3_nat h').2.1)

theorem valid_singleton_ascii (x : UInt8) (h : isAscii x = true) : Valid [x] := Valid.ascii x [] h Valid.nil

theorem Valid.ite {c : Prop} [Decidable c] {a b : Bytes} (ha : Valid a) (hb : Valid b) :
    Valid (if c then a else b) := by
  split
  · exact ha
  · exact hb

theorem Valid.append {a b : Bytes} (ha : Valid a) (hb : Valid b) : Valid (a ++ b) := by
  induction ha with
  | nil => exact hb
  | ascii x r hx _ ih => exact Valid.ascii x _ hx ih
  | two b0 b1 r h0 h1 _ ih => exact Valid.two b0 b1 _ h0 h1 ih
  | three b0 b1 b2 r h0 h2 _ ih => exact Valid.three b0 b1 b2 _ h0 h2 ih
  | four b0 b1 b2 b3 r h0 h2 h3 _ ih => exact Valid.four b0 b1 b2 b3 _ h0 h2 h3 ih

theorem Valid.tail_of_ascii {x : UInt8} {r : Bytes} (h : Valid (x :: r)) (hx : isAscii x = true) : Valid r := by
  cases h with
  | ascii _ _ _ hr => exact hr
  | two _ b1 r' h0 _ _ =>
    rw [not_ascii_lead2 h0] at hx
    cases hx
  | three _ b1 b2 r' h0 _ _ =>
    rw [(not_ascii_ok3 h0).1] at hx
    cases hx
  | four _ b1 b2 b3 r' h0 _ _ _ =>
    rw [(not_ascii_ok4 h0).1] at hx
    cases hx

theorem cons_eq_append_ascii {y x : UInt8} {r a b : Bytes} (hy : isAscii y = false) (hx : isAscii x = true)
    (h : y :: r = a ++ x :: b) : ∃ a', a = y :: a' ∧ r = a' ++ x :: b := by
  cases a with
  | nil =>
    cases h
    rw [hx] at hy
    cases hy
  | cons y' a' =>
    cases h
    exact ⟨a', rfl, rfl⟩

/-- a valid string can be cut in front of any ASCII byte: such a byte is not inside a character, so
every byte of the character in front belongs to the left part -/
theorem Valid.split_before_ascii {x : UInt8} (hx : isAscii x = true) {l : Bytes} (h : Valid l) :
    ∀ (a b : Bytes), l = a ++ x :: b → Valid a ∧ Valid (x :: b) := by
  induction h with
  | nil =>
    intro a b e
    cases a <;> cases e
  | ascii y r hy hr ih =>
    intro a b e
    cases a with
    | nil =>
      cases e
      exact ⟨.nil, .ascii _ _ hy hr⟩
    | cons y' a' =>
      cases e
      exact ⟨.ascii _ _ hy (ih a' b rfl).1, (ih a' b rfl).2⟩
  | two b0 b1 r h0 h1 hr ih =>
    intro a b e
    obtain ⟨a1, rfl, e1⟩ := cons_eq_append_ascii (not_ascii_lead2 h0) hx e
    obtain ⟨a2, rfl, e2⟩ := cons_eq_append_ascii (not_ascii_cont h1) hx e1
    exact ⟨.two _ _ _ h0 h1 (ih a2 b e2).1, (ih a2 b e2).2⟩
  | three b0 b1 b2 r h0 h2 hr ih =>
    intro a b e
    obtain ⟨a1, rfl, e1⟩ := cons_eq_append_ascii (not_ascii_ok3 h0).1 hx e
    obtain ⟨a2, rfl, e2⟩ := cons_eq_append_ascii (not_ascii_ok3 h0).2 hx e1
    obtain ⟨a3, rfl, e3⟩ := cons_eq_append_ascii (not_ascii_cont h2) hx e2
    exact ⟨.three _ _ _ _ h0 h2 (ih a3 b e3).1, (ih a3 b e3).2⟩
  | four b0 b1 b2 b3 r h0 h2 h3 hr ih =>
    intro a b e
    obtain ⟨a1, rfl, e1⟩ := cons_eq_append_ascii (not_ascii_ok4 h0).1 hx e
    obtain ⟨a2, rfl, e2⟩ := cons_eq_append_ascii (not_ascii_ok4 h0).2 hx e1
    obtain ⟨a3, rfl, e3⟩ := cons_eq_append_ascii (not_ascii_cont h2) hx e2
    obtain ⟨a4, rfl, e4⟩ := cons_eq_append_ascii (not_ascii_cont h3) hx e3
    exact ⟨.four _ _ _ _ _ h0 h2 h3 (ih a4 b e4).1, (ih a4 b e4).2⟩

theorem Valid.split_ascii {a b : Bytes} {x : UInt8} (hx : isAscii x = true) (h : Valid (a ++ x :: b)) :
    Valid a ∧ Valid [x] ∧ Valid b :=
  have ⟨h1, h2⟩ := h.split_before_ascii hx a b rfl
  ⟨h1, .ascii x [] hx .nil, h2.tail_of_ascii hx⟩

theorem Valid.split_at {a b : Bytes} (h : Valid (a ++ b))
    (hb : b = [] ∨ ∃ x r, b = x :: r ∧ isAscii x = true) : Valid a ∧ Valid b := by
  rcases hb with rfl | ⟨x, r, rfl, hx⟩
  · rw [List.append_nil] at h
    exact ⟨h, .nil⟩
  · exact h.split_before_ascii hx a r rfl

def asciiSeps (isSep : UInt8 → Bool) : Prop := ∀ x, isSep x = true → isAscii x = true

theorem tokens_valid {isSep : UInt8 → Bool} (hs : asciiSeps isSep) : ∀ (ts : List Tok), WFToks isSep ts →
    Valid (untoks ts) → ∀ t ∈ ts, Valid t.bytes := by
  intro ts
  induction ts with
  | nil => intro _ _ t ht; simp at ht
  | cons t0 r ih =>
    intro hw hv t ht
    cases t0 with
    | sep x =>
      have hx : isAscii x = true := hs x hw.1
      simp only [untoks, Tok.bytes, List.singleton_append] at hv
      rcases List.mem_cons.mp ht with h | h
      · subst h; exact Valid.ascii x [] hx Valid.nil
      · exact ih hw.2 (hv.tail_of_ascii hx) t h
    | seg s =>
      obtain ⟨_, _, hns, hwr⟩ := hw
      simp only [untoks, Tok.bytes] at hv
      have hcut : untoks r = [] ∨ ∃ x r', untoks r = x :: r' ∧ isAscii x = true := by
        cases r with
        | nil => left; rfl
        | cons t1 r1 =>
          cases t1 with
          | sep y => right; exact ⟨y, untoks r1, by simp [untoks, Tok.bytes], hs y hwr.1⟩
          | seg s' => exact absurd hns (by simp [notSegHead])
      obtain ⟨h1, h2⟩ := Valid.split_at hv hcut
      rcases List.mem_cons.mp ht with h | h
      · subst h; exact h1
      · exact ih hwr h2 t h

theorem toks_valid {f : UInt8 → Bool} (hf : asciiSeps f) {r : Bytes} (hr : Valid r) :
    ∀ t ∈ toks f r, Valid t.bytes :=
  tokens_valid hf _ (WFToks_toks f r) ((untoks_toks f r).symm ▸ hr)

theorem untoks_valid : ∀ (ts : List Tok), (∀ t ∈ ts, Valid t.bytes) → Valid (untoks ts)
  | [], _ => Valid.nil
  | t :: r, h => Valid.append (h t (by simp)) (untoks_valid r (fun t' ht' => h t' (by simp [ht'])))

theorem validB_sound (b : Bytes) : validB b = true → Valid b := by
  fun_induction validB b with
  | case1 => exact fun _ => .nil
  | case2 b0 r h0 ih => exact fun h => .ascii _ _ h0 (ih h)
  | case3 b0 h0 => exact fun h => nomatch h
  | case4 b0 h0 b1 r1 hl ih =>
    intro h
    simp only [Bool.and_eq_true] at h
    exact .two _ _ _ hl h.1 (ih h.2)
  | case5 => exact fun h => nomatch h
  | case6 b0 h0 b1 hl b2 r2 h3 ih =>
    intro h
    simp only [Bool.and_eq_true] at h
    exact .three _ _ _ _ h3 h.1 (ih h.2)
  | case7 => exact fun h => nomatch h
  | case8 b0 h0 b1 hl b2 h3 b3 r3 ih =>
    intro h
    simp only [Bool.and_eq_true] at h
    exact .four _ _ _ _ _ h.1.1.1 h.1.1.2 h.1.2 (ih h.2)

/-- on a valid string the cascade of `validB` takes the branch of the character in front: the classes
of lead bytes are disjoint -/
theorem validB_complete {b : Bytes} (h : Valid b) : validB b = true := by
  induction h with
  | nil => rfl
  | ascii x r hx _ ih =>
    unfold validB
    simp [hx, ih]
  | two b0 b1 r h0 h1 _ ih =>
    unfold validB
    simp [not_ascii_lead2 h0, h0, h1, ih]
  | three b0 b1 b2 r h0 h2 _ ih =>
    unfold validB
    simp [(not_ascii_ok3 h0).1, lead2_false_of_ok3 h0, h0, h2, ih]
  | four b0 b1 b2 b3 r h0 h2 h3 _ ih =>
    unfold validB
    simp [(not_ascii_ok4 h0).1, lead2_false_of_ok4 h0, ok3_false_of_ok4 h0, h0, h2, h3, ih]

theorem validB_iff (b : Bytes) : validB b = true ↔ Valid b :=
  ⟨validB_sound b, validB_complete⟩

end TP.Utf8

namespace TP.C14b

open TP.Utf8

def IsChar (c : Bytes) : Prop :=
  (∃ x, c = [x] ∧ isAscii x = true) ∨
  (∃ b0 b1, c = [b0, b1] ∧ lead2 b0 = true ∧ isCont b1 = true) ∨
  (∃ b0 b1 b2, c = [b0, b1, b2] ∧ ok3 b0 b1 = true ∧ isCont b2 = true) ∨
  (∃ b0 b1 b2 b3, c = [b0, b1, b2, b3] ∧ ok4 b0 b1 = true ∧ isCont b2 = true ∧ isCont b3 = true)

theorem IsChar.ascii {x : UInt8} (h : isAscii x = true) : IsChar [x] :=
  .inl ⟨x, rfl, h⟩

theorem IsChar.two {b0 b1 : UInt8} (h0 : lead2 b0 = true) (h1 : isCont b1 = true) : IsChar [b0, b1] :=
  .inr (.inl ⟨b0, b1, rfl, h0, h1⟩)

theorem IsChar.three {b0 b1 b2 : UInt8} (h0 : ok3 b0 b1 = true) (h2 : isCont b2 = true) :
    IsChar [b0, b1, b2] :=
  .inr (.inr (.inl ⟨b0, b1, b2, rfl, h0, h2⟩))

theorem IsChar.four {b0 b1 b2 b3 : UInt8} (h0 : ok4 b0 b1 = true) (h2 : isCont b2 = true)
    (h3 : isCont b3 = true) : IsChar [b0, b1, b2, b3] :=
  .inr (.inr (.inr ⟨b0, b1, b2, b3, rfl, h0, h2, h3⟩))

theorem IsChar.valid_append {c r : Bytes} (hc : IsChar c) (hr : Valid r) : Valid (c ++ r) := by
  rcases hc with ⟨x, rfl, hx⟩ | ⟨b0, b1, rfl, h0, h1⟩ | ⟨b0, b1, b2, rfl, h0, h2⟩ | ⟨b0, b1, b2, b3, rfl, h0, h2, h3⟩
  · exact .ascii _ _ hx hr
  · exact .two _ _ _ h0 h1 hr
  · exact .three _ _ _ _ h0 h2 hr
  · exact .four _ _ _ _ _ h0 h2 h3 hr

theorem IsChar.ne_nil {c : Bytes} (h : IsChar c) : c ≠ [] := by
  rcases h with ⟨_, rfl, _⟩ | ⟨_, _, rfl, _⟩ | ⟨_, _, _, rfl, _⟩ | ⟨_, _, _, _, rfl, _⟩ <;>
    exact List.cons_ne_nil _ _

/-- a character is one ASCII byte, or has no ASCII byte in it -/
theorem IsChar.bytes {c : Bytes} (h : IsChar c) :
    (∃ x, c = [x] ∧ isAscii x = true) ∨ (∀ x ∈ c, isAscii x = false) := by
  rcases h with h | ⟨b0, b1, rfl, h0, h1⟩ | ⟨b0, b1, b2, rfl, h0, h2⟩ | ⟨b0, b1, b2, b3, rfl, h0, h2, h3⟩
  · exact .inl h
  · exact .inr (List.forall_mem_cons.mpr ⟨not_ascii_lead2 h0, List.forall_mem_cons.mpr ⟨not_ascii_cont h1, nofun⟩⟩)
  · exact .inr (List.forall_mem_cons.mpr ⟨(not_ascii_ok3 h0).1, List.forall_mem_cons.mpr ⟨(not_ascii_ok3 h0).2,
      List.forall_mem_cons.mpr ⟨not_ascii_cont h2, nofun⟩⟩⟩)
  · exact .inr (List.forall_mem_cons.mpr ⟨(not_ascii_ok4 h0).1, List.forall_mem_cons.mpr ⟨(not_ascii_ok4 h0).2,
      List.forall_mem_cons.mpr ⟨not_ascii_cont h2, List.forall_mem_cons.mpr ⟨not_ascii_cont h3, nofun⟩⟩⟩⟩)

end TP.C14b
