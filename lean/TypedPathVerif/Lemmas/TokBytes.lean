/-
Lemmas/TokBytes.lean — the bytes of a well-formed token list seen from either end: what the first
maximal separator-free run is, how the bytes end, and what stripping a run from the back leaves.
The byte-level parsers (`Lemmas/CombTok.lean`, `CombBack.lean`) and the hash loop
(`Lemmas/HashLoop.lean`) read token lists through these.
-/
import TypedPathVerif.Lemmas.Toks
import TypedPathVerif.Model.Parser

namespace TP.Comb

theorem untoks_isEmpty {isSep : UInt8 → Bool} {ts : List Tok} (hw : WFToks isSep ts) :
    (untoks ts).isEmpty = decide (ts = []) := by
  by_cases h : ts = []
  · simp [h, untoks]
  · have : untoks ts ≠ [] := fun h' => h (untoks_eq_nil hw h')
    simp [h, this]

theorem untoks_notSegHead {isSep : UInt8 → Bool} {ts : List Tok} (hw : WFToks isSep ts)
    (hn : notSegHead ts) : untoks ts = [] ∨ ∃ x r, untoks ts = x :: r ∧ isSep x = true := by
  cases ts with
  | nil => exact Or.inl rfl
  | cons t r =>
    cases t with
    | sep x => exact Or.inr ⟨x, untoks r, rfl, hw.1⟩
    | seg s => exact absurd hn (by simp [notSegHead])

theorem span_notSegHead {isSep : UInt8 → Bool} {ts : List Tok} (hw : WFToks isSep ts)
    (hn : notSegHead ts) :
    (untoks ts).takeWhile (fun x => !isSep x) = [] ∧
      (untoks ts).dropWhile (fun x => !isSep x) = untoks ts := by
  rcases untoks_notSegHead hw hn with h | ⟨x, r, h, hx⟩
  · rw [h]
    simp
  · rw [h]
    simp [hx]

theorem span_seg {isSep : UInt8 → Bool} {s : Bytes} {r : List Tok} (hw : WFToks isSep (.seg s :: r)) :
    (untoks (.seg s :: r)).takeWhile (fun x => !isSep x) = s ∧
      (untoks (.seg s :: r)).dropWhile (fun x => !isSep x) = untoks r := by
  obtain ⟨_, h2, h3, h4⟩ := hw
  have hs : ∀ y ∈ s, (!isSep y) = true := fun y hy => by simp [h2 y hy]
  have hb := span_notSegHead h4 h3
  simp only [untoks, Tok.bytes]
  rw [List.takeWhile_append_of_pos hs, List.dropWhile_append_of_pos hs, hb.1, hb.2, List.append_nil]
  exact ⟨rfl, rfl⟩

theorem untoks_all_sep {isSep : UInt8 → Bool} {j : List Tok} (hw : WFToks isSep j)
    (hj : ∀ t ∈ j, junk true t = true) : ∀ y ∈ untoks j, isSep y = true := by
  intro y hy
  obtain ⟨t, ht, hyt⟩ := mem_untoks hy
  obtain ⟨x, rfl⟩ := (junk_true_iff t).mp (hj t ht)
  obtain rfl : y = x := List.mem_singleton.mp hyt
  exact hw.sep_mem y ht

theorem untoks_snoc_seg {isSep : UInt8 → Bool} {c : List Tok} {s : Bytes} (hw : WFToks isSep (c ++ [.seg s])) :
    ∃ s0 y, s = s0 ++ [y] ∧ isSep y = false ∧ untoks (c ++ [.seg s]) = (untoks c ++ s0) ++ [y] := by
  obtain ⟨h1, h2⟩ := hw.seg_mem s (by simp)
  rcases List.eq_nil_or_concat s with h | ⟨s0, y, h⟩
  · exact absurd h h1
  · rw [List.concat_eq_append] at h
    refine ⟨s0, y, h, h2 y (by rw [h]; simp), ?_⟩
    rw [untoks_append, h]
    simp [untoks, Tok.bytes]

theorem before_seg {isSep : UInt8 → Bool} {c : List Tok} {s : Bytes} (hw : WFToks isSep (c ++ [.seg s])) :
    c = [] ∨ ∃ c0 x, c = c0 ++ [.sep x] := by
  have hl : notSegLast c := (WFToks_append.mp hw).2.2.resolve_right (by simp [notSegHead])
  rcases List.eq_nil_or_concat c with h | ⟨c0, t, h⟩
  · exact Or.inl h
  · rw [List.concat_eq_append] at h
    cases t with
    | sep x => exact Or.inr ⟨c0, x, h⟩
    | seg s' => exact absurd (by rw [h]; simp) (hl s')

theorem untoks_before_seg {isSep : UInt8 → Bool} {c : List Tok} {s : Bytes} (hw : WFToks isSep (c ++ [.seg s])) :
    untoks c = [] ∨ ∃ a0 y, untoks c = a0 ++ [y] ∧ isSep y = true := by
  rcases before_seg hw with rfl | ⟨c0, x, rfl⟩
  · exact Or.inl rfl
  · refine Or.inr ⟨untoks c0, x, ?_, hw.sep_mem x (by simp)⟩
    rw [untoks_append]
    simp [untoks, Tok.bytes]

theorem rspan_bytes {α : Type} (p : α → Bool) (a b : List α) (hb : ∀ y ∈ b, p y = true)
    (ha : a = [] ∨ ∃ a0 y, a = a0 ++ [y] ∧ p y = false) :
    ((a ++ b).reverse.dropWhile p).reverse = a ∧ ((a ++ b).reverse.takeWhile p).reverse = b := by
  have hb' : ∀ y ∈ b.reverse, p y = true := fun y hy => hb y (List.mem_reverse.mp hy)
  rw [List.reverse_append, List.takeWhile_append_of_pos hb', List.dropWhile_append_of_pos hb']
  rcases ha with rfl | ⟨a0, y, rfl, hy⟩
  · simp
  · rw [List.reverse_concat, List.dropWhile_cons_of_neg (by simp [hy])]
    simp [hy]

end TP.Comb
