/-
Lemmas/EncNew.lean — freshly created parser states (`Parser::new`): what they hold, that they are
`Reach`, the closed form of `comps` read off them, and `parent` as one back step of such a state.
-/
import TypedPathVerif.Lemmas.Reparse
import TypedPathVerif.Lemmas.WinPrefix
import TypedPathVerif.Model.Path

namespace TP

theorem Enc.new_atBeg (e : Enc) (b : Bytes) : (e.new b).atBeg = true := by
  cases e with
  | unix => rfl
  | windows =>
    simp only [Enc.new]
    split <;> rfl

theorem Enc.new_inv (e : Enc) (b : Bytes) : (e.new b).Inv := Or.inl (Enc.new_atBeg e b)

/-- `Parser::new` of a Windows path with a prefix: the separator set and the `.` rule are those of the
prefix text (`Win.normOf_raw`) -/
theorem new_of_parse {b rest : Bytes} {p : PrefixComp} (h : parsePrefixComp b = some (p, rest)) :
    Enc.new .windows b =
      { pre := some p, toks := toks (wsep (Win.normOf p.raw)) rest, atBeg := true, k := !Win.normOf p.raw } := by
  have hn : (!startsWith b VERB) = Win.normOf p.raw := (Win.normOf_raw h).symm
  simp only [Enc.new, h, hn]

/-- `Parser::new` of a Windows path without a prefix: it does not start with `\\?\`, so both
separators count and `.` is skipped -/
theorem new_of_no_prefix {b : Bytes} (h : parsePrefixComp b = none) :
    Enc.new .windows b = { pre := none, toks := toks (wsep true) b, atBeg := true, k := false } := by
  have hn : (!startsWith b VERB) = true := Win.normOf_of_no_prefix (parsePrefix_none_of_comp h)
  simp only [Enc.new, h, hn, Bool.not_true]

theorem new_toks (e : Enc) (b : Bytes) :
    ∃ f rest, (e.new b).toks = toks f rest ∧ (e.new b).preBytes ++ rest = b := by
  cases e with
  | unix => exact ⟨usep, b, rfl, rfl⟩
  | windows =>
    simp only [Enc.new]
    split
    · rename_i p rest h
      exact ⟨_, rest, rfl, parsePrefixComp_raw h⟩
    · exact ⟨_, b, rfl, rfl⟩

theorem new_toks_wf (e : Enc) (b : Bytes) : ∃ f, WFToks f (e.new b).toks := by
  obtain ⟨f, rest, h, _⟩ := new_toks e b
  exact ⟨f, h ▸ WFToks_toks f rest⟩

theorem new_remaining (e : Enc) (b : Bytes) : (e.new b).remaining = b := by
  obtain ⟨f, rest, h1, h2⟩ := new_toks e b
  rw [PState.remaining, h1, untoks_toks, h2]

/-- `comps` is defined by well-founded recursion and does not reduce in the kernel: closed
evaluations (the examples and K-witnesses of the Props files) rewrite with this form before
`decide +kernel`. -/
theorem C03.comps_new_closed (e : Enc) (b : Bytes) :
    comps e b = (match (e.new b).pre with | some p => [Comp.pfx p] | none => []) ++
      compsT (e.new b).k true (e.new b).toks := by
  rw [comps, comps_eq_closed _ (Enc.new_inv e b), PState.closed]
  cases (e.new b).pre <;> rfl

theorem comps_of_parse {b rest : Bytes} {p : PrefixComp} (h : parsePrefixComp b = some (p, rest)) :
    comps .windows b = .pfx p :: compsT (!Win.normOf p.raw) true (toks (wsep (Win.normOf p.raw)) rest) := by
  rw [C03.comps_new_closed, new_of_parse h]
  rfl

theorem comps_of_no_prefix {b : Bytes} (h : parsePrefixComp b = none) :
    comps .windows b = compsT false true (toks (wsep true) b) := by
  rw [C03.comps_new_closed, new_of_no_prefix h]
  rfl

theorem unix_comps_eq (b : Bytes) : comps .unix b = compsT false true (toks usep b) :=
  C03.comps_new_closed .unix b

/-! ### a fresh state is `Reach` -/

theorem reach_new_unix (b : Bytes) : Reach usep false (Enc.new .unix b) :=
  ⟨rfl, WFToks_toks usep b, Enc.new_inv .unix b⟩

theorem reach_new_of_parse {p rest : Bytes} {pp : PrefixComp} (hpp : parsePrefixComp p = some (pp, rest)) :
    Reach (wsep (Win.normOf pp.raw)) (!Win.normOf pp.raw) (Enc.new .windows p) := by
  rw [new_of_parse hpp]
  exact ⟨rfl, WFToks_toks _ rest, Or.inl rfl⟩

/-- (R) for Unix -/
theorem unix_reparse {st : PState} (hr : Reach usep false st) (hp : st.pre = none) :
    comps .unix st.remaining = st.comps := by
  rw [unix_comps_eq, hr.reparse hp]

theorem C18b.comps_length_le (e : Enc) (b : Bytes) : (comps e b).length ≤ b.length + 1 := by
  -- the tokens are those of a trailing part of `b`; the prefix, if any, is one more component
  obtain ⟨f, rest, h1, h2⟩ := new_toks e b
  have hc := compsT_length_le (e.new b).k (e.new b).toks
  have ht : (e.new b).toks.length ≤ rest.length := h1 ▸ toks_length_le f rest
  have hr : rest.length ≤ b.length := by
    rw [← h2, List.length_append]
    omega
  rw [C03.comps_new_closed, List.length_append]
  cases (e.new b).pre with
  | none =>
    simp only [List.length_nil]
    omega
  | some p =>
    simp only [List.length_singleton]
    omega

end TP

/-! ### `parent`: a back step of the fresh parser -/

namespace TP.C09

/-- a component after which `parent` answers `Some` -/
def removable (c : Comp) : Bool := c.isNormal || c.isCur || c.isParent

theorem removable_iff (c : Comp) : removable c = false ↔ (c = .root ∨ ∃ p, c = .pfx p) := by
  cases c <;> simp [removable, Comp.isNormal, Comp.isCur, Comp.isParent]

theorem parent_eq_some_iff {e : Enc} {b q : Bytes} :
    parent e b = some q ↔
      ∃ c s', (e.new b).nextBack = some (c, s') ∧ removable c = true ∧ s'.remaining = q := by
  unfold parent
  cases (e.new b).nextBack with
  | none => simp
  | some r =>
    obtain ⟨c, s'⟩ := r
    show (if removable c = true then some s'.remaining else none) = some q ↔ _
    constructor
    · intro h
      split at h
      · exact ⟨c, s', rfl, ‹_›, Option.some.inj h⟩
      · cases h
    · rintro ⟨c', s'', h1, h2, h3⟩
      cases h1
      rw [if_pos h2, h3]

/-- down to the tokens: a parent is the prefix text followed by what the back parser leaves of the
tokens (a removable component is never the prefix) -/
theorem parent_eq_some {e : Enc} {b q : Bytes} (h : parent e b = some q) :
    ∃ c ts', backT (e.new b).k true (e.new b).toks = some (c, ts') ∧
      (e.new b).nextBack = some (c, { e.new b with toks := ts' }) ∧
      q = (e.new b).preBytes ++ untoks ts' := by
  obtain ⟨c, s', hb, hc, rfl⟩ := parent_eq_some_iff.mp h
  rcases nextBack_cases hb with ⟨ts', _, hbt, rfl⟩ | ⟨p, _, _, rfl, _⟩
  · rw [Enc.new_atBeg] at hbt
    exact ⟨c, ts', hbt, hb, rfl⟩
  · cases hc

/-- When present, the state reached by `parent` holds the original's components without the
last one (law B). -/
theorem parent_state_comps (e : Enc) (b : Bytes) {c : Comp} {s' : PState}
    (h : (e.new b).nextBack = some (c, s')) :
    s'.comps = (comps e b).dropLast ∧ (comps e b).getLast? = some c := by
  have hc : comps e b = s'.comps ++ [c] := (back_comps (Enc.new_inv e b) h).1
  rw [hc]; simp

theorem nextBack_new_none_iff (e : Enc) (b : Bytes) : (e.new b).nextBack = none ↔ comps e b = [] := by
  rw [← front_none_iff_back_none (Enc.new_inv e b)]
  exact comps_nil_iff_front_none.symm

/-- When every leading piece of the tokens, written out behind the prefix text, re-parses to the state
that holds it, the parent is such a text and has the path's components without the last one. -/
theorem parent_comps_of_reparse {e : Enc} {b q : Bytes} (h : parent e b = some q)
    (hre : ∀ ts' x, (e.new b).toks = ts' ++ x →
      e.new ((e.new b).preBytes ++ untoks ts') = { e.new b with toks := ts' }) :
    ∃ ts' x, (e.new b).toks = ts' ++ x ∧ q = (e.new b).preBytes ++ untoks ts' ∧
      comps e q = (comps e b).dropLast := by
  obtain ⟨c, ts', hbt, hnb, rfl⟩ := parent_eq_some h
  obtain ⟨x, hx⟩ := backT_prefix hbt
  exact ⟨ts', x, hx, rfl, (congrArg PState.comps (hre ts' x hx)).trans (parent_state_comps e b hnb).1⟩

end TP.C09
