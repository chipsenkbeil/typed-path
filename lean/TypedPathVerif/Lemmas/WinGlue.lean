/-
Lemmas/WinGlue.lean — the "append" rule of `windowsPush` onto a non-empty base that is not a bare
drive: the bytes are `a ++ sepGlue a ++ q` (`windowsPush_glue`), and, read with both separators, a
relative `q` contributes its components minus a leading `.` (`compsT_glue`).  Shared by the append law
for prefix-free bases (Props/C16b) and the one for prefixed bases (Lemmas/WinAppend).
-/
import TypedPathVerif.Lemmas.Append
import TypedPathVerif.Lemmas.Parsed
import TypedPathVerif.Lemmas.WinPush

namespace TP.Win

open JoinRules

theorem head_root_iff_startsWithSep (k : Bool) (q : Bytes) :
    (compsT k true (toks (wsep true) q)).head? = some .root ↔ startsWithSep q = true := by
  rw [compsT_head_root]
  cases q with
  | nil => exact ⟨fun ⟨_, _, h, _⟩ => (nomatch h), fun h => (nomatch h)⟩
  | cons x t => exact ⟨fun ⟨_, _, h, hx⟩ => (List.cons.inj h).1 ▸ hx, fun h => ⟨x, t, rfl, h⟩⟩

theorem rel_of_not_startsWithSep (q : Bytes) (h : startsWithSep q = false) :
    (compsT false true (toks (wsep true) q)).head? ≠ some .root := by
  rw [ne_eq, head_root_iff_startsWithSep, h]
  exact Bool.noConfusion

theorem endsWithSep_iff {a : Bytes} :
    endsWithSep a = true ↔ ∃ a' x, a = a' ++ [x] ∧ anySep x = true := by
  unfold endsWithSep
  constructor
  · intro h
    simp only [Bool.or_eq_true, decide_eq_true_eq] at h
    rcases h with h | h
    · obtain ⟨a', rfl⟩ := List.getLast?_eq_some_iff.mp h
      exact ⟨a', _, rfl, by decide⟩
    · obtain ⟨a', rfl⟩ := List.getLast?_eq_some_iff.mp h
      exact ⟨a', _, rfl, by decide⟩
  · rintro ⟨a', x, rfl, hx⟩
    simp only [anySep, wsep, Bool.true_and, Bool.or_eq_true, decide_eq_true_eq] at hx
    rcases hx with hx | hx <;> simp [hx]

theorem endsWithSep_singleton (x : UInt8) : endsWithSep [x] = anySep x := by
  simp [endsWithSep, anySep, wsep]

/-- the separator `push` inserts after a buffer that does not end with one -/
def sepGlue (a : Bytes) : Bytes := if endsWithSep a = true then [] else [BSLASH]

theorem sepGlue_append (a : Bytes) {b : Bytes} (hb : b ≠ []) : sepGlue (a ++ b) = sepGlue b := by
  unfold sepGlue endsWithSep
  rw [List.getLast?_append]
  cases hg : b.getLast? with
  | none => exact absurd (List.getLast?_eq_none_iff.mp hg) hb
  | some y => rfl

theorem compsT_glue (a q : Bytes) (ha : a ≠ []) (hrel : startsWithSep q = false) :
    compsT false true (toks (wsep true) (a ++ sepGlue a ++ q)) =
      compsT false true (toks (wsep true) a) ++ dropLeadingCur (compsT false true (toks (wsep true) q)) := by
  have hrel' := rel_of_not_startsWithSep q hrel
  unfold sepGlue
  by_cases hend : endsWithSep a = true
  · obtain ⟨a', x, rfl, hx⟩ := endsWithSep_iff.mp hend
    rw [if_pos hend, List.append_nil, List.append_assoc]
    exact compsT_join (wsep true) a' q x hx hrel'
  · rw [if_neg hend, List.append_assoc, List.singleton_append, compsT_join (wsep true) a q BSLASH (by decide) hrel',
      compsT_trailing_sep (wsep true) false a BSLASH (by decide) ha]

theorem windowsPush_glue {a q : Bytes} (hq : q ≠ []) (hpq : prefixOf q = none)
    (hv : baseIsVerbatim a = false) (hrel : startsWithSep q = false) (hane : a ≠ [])
    (hbare : isBareDrive a = false) : windowsPush a q = a ++ sepGlue a ++ q := by
  rw [C08.windowsPush_append hq hpq hv hrel]
  unfold sepGlue
  by_cases hend : endsWithSep a = true <;> simp [hane, hend, hbare]

end TP.Win
