/-
Lemmas/CombWin.lean — the byte-level Windows component parsers (`Model/Comb/Windows.lean`), separator
set `wsep normalize`: which one-token parser (`Lemmas/CombTok.lean`) each front parser is, on every
input; hence, on the bytes of a well-formed token list, `parse_front` and `parse_back` (an instance
of `Lemmas/CombBack.lean`) equal `frontT` and `backT` of `Model/Parser.lean` with `k = !normalize`,
and none faults.
-/
import TypedPathVerif.Lemmas.CombUnix
import TypedPathVerif.Model.Comb.Windows

namespace TP.Comb.Windows

open TP.Comb

/-- Nothing uses this theorem.  It stays, and stays in front of `after_dots_err`, because the `match` in
the statement of `after_dots_err` is the matcher generated here. -/
theorem after_dots_ok (n : Bool) (c : Comp) {r : List Tok} (hw : WFToks (wsep n) r) (hn : notSegHead r) :
    (if (untoks r).isEmpty then Res.ok (untoks r) c
     else match index0 (untoks r) with
       | none => .fault .panic
       | some b => if !wsep n b then .err else .ok (untoks r) c) = .ok (untoks r) c := by
  cases r with
  | nil => rfl
  | cons t r' =>
    cases t with
    | sep x =>
      have hx : wsep n x = true := hw.1
      simp [untoks, Tok.bytes, index0, hx]
    | seg s => exact absurd hn (by simp [notSegHead])

theorem after_dots_err (n : Bool) (c : Comp) (y : UInt8) (rest : Bytes) (hy : wsep n y = false) :
    (if (y :: rest).isEmpty then Res.ok (y :: rest) c
     else match index0 (y :: rest) with
       | none => .fault .panic
       | some b => if !wsep n b then .err else .ok (y :: rest) c) = .err := by
  simp [index0, hy]

theorem separator_eq (n : Bool) : separator n = tokP (wsep n) (sepC ()) := by
  funext i
  unfold separator
  cases i with
  | nil => simp [List.isPrefixOf, tokP]
  | cons x r =>
    have hc : ((BSLASH == x) || (n && (SLASH == x))) = wsep n x := by
      rw [beq_swap, beq_swap]
      rfl
    simp only [List.isPrefixOf, Bool.and_true, hc, sliceFrom, tokP, sepC]
    cases wsep n x <;> simp [ofOpt]

theorem rootDir_eq (n : Bool) : rootDir n = tokP (wsep n) (sepC .root) := by
  funext i
  cases i with
  | nil => rfl
  | cons x r => cases h : wsep n x <;> simp [rootDir, index0, sliceFrom, tokP, sepC, h, ofOpt]

theorem dotThen_eq (pat : Bytes) (c : Comp) (n : Bool) (hne : pat ≠ []) (hns : ∀ y ∈ pat, wsep n y = false) :
    dotThen pat c n = tokP (wsep n) (segC (isPat pat c)) := by
  funext i
  rw [← dots_eq_tokP (wsep n) pat c hne hns, dotThen]
  congr 1
  funext i _
  cases i with
  | nil => rfl
  | cons x r =>
    cases h : wsep n x
    · refine (after_dots_err n c x r h).trans ?_
      simp [atBoundary, h]
    · simp [index0, atBoundary, h]

theorem curDir_eq (n : Bool) : curDir n = tokP (wsep n) (segC (isPat CUR .cur)) :=
  dotThen_eq CUR .cur n (by decide) (by cases n <;> decide)

theorem parentDir_eq (n : Bool) : parentDir n = tokP (wsep n) (segC (isPat PAR .parent)) :=
  dotThen_eq PAR .parent n (by decide) (by cases n <;> decide)

theorem normal_eq (n : Bool) : normal n = tokP (wsep n) (segC fun s => some (.normal s)) :=
  funext normal_eq_tokP

/-- `filename(normalize)` is `any_of!` over its three cases, `cur_dir` dropped when normalizing -/
theorem filename_eq (n : Bool) : filename n = tokP (wsep n) (headC false (!n)) := by
  have : filename n = anyOf [parentDir n, if !n then curDir n else anyOf [], normal n] := by
    funext i
    unfold filename
    cases n
    · simp only [anyOf, Bool.not_false, if_true]
      cases parentDir false i <;> try rfl
      cases curDir false i <;> try rfl
      cases normal false i <;> rfl
    · simp only [anyOf, Bool.not_true, Bool.false_eq_true, if_false]
      cases parentDir true i <;> try rfl
      cases normal true i <;> rfl
  have hc : (if (!n) = true then curDir n else anyOf []) =
      tokP (wsep n) (fun t => if (!n) = true then segC (isPat CUR .cur) t else none) := by
    cases n
    · exact curDir_eq false
    · exact anyOf_nil_tokP
  rw [this, parentDir_eq, normal_eq, ← fileC_eq (!n), hc]
  exact anyOf_cons_tokP _ _ _ (anyOf_cons_tokP _ _ _ (anyOf_cons_tokP _ _ _ anyOf_nil_tokP))

theorem head_atBeg (n : Bool) : anyOf [rootDir n, curDir n, filename n] = tokP (wsep n) (headC true (!n)) := by
  rw [rootDir_eq, curDir_eq, filename_eq,
    anyOf_cons_tokP _ _ _ (anyOf_cons_tokP _ _ _ (anyOf_cons_tokP _ _ _ anyOf_nil_tokP))]
  congr 1
  funext t
  cases t with
  | sep x => rfl
  | seg s =>
    have hcp : CUR ≠ PAR := by decide
    by_cases h : s = CUR <;> simp [sepC, segC, isPat, headC, segComp, h, hcp]

theorem moveFrontToNext_toks (n : Bool) {ts : List Tok} (hw : WFToks (wsep n) ts) :
    moveFrontToNext n (untoks ts) = .ok (untoks (skipFront (!n) ts)) () := by
  have h1 : moveFrontToNext n =
      map (zeroOrMore (if n then anyOf [separator n, map (curDir n) (fun _ => ())] else separator n))
        (fun _ => ()) := by
    cases n <;> rfl
  have h2 : (if n then anyOf [separator n, map (curDir n) (fun _ => ())] else separator n) =
      tokP (wsep n) (junkC (!n)) := by
    cases n
    · rw [if_neg (by simp), separator_eq]
      congr 1
      funext t
      cases t <;> rfl
    · rw [if_pos rfl, separator_eq, curDir_eq, map_tokP]
      exact (anyOf_cons_tokP _ _ _ (anyOf_cons_tokP _ _ _ anyOf_nil_tokP)).trans (congrArg _ junkC_eq)
  rw [h1, h2, skipMany_toks _ hw, junkC_isSome]
  rfl

theorem parseFront_toks (atBeg n : Bool) {ts : List Tok} (hw : WFToks (wsep n) ts) :
    parseFront atBeg n (untoks ts) = match frontT (!n) atBeg ts with
      | some (c, ts') => .ok (untoks ts') c
      | none => .err := by
  cases atBeg
  · exact G.parseFront_toks (filename_eq n) (moveFrontToNext_toks n) hw
  · exact G.parseFront_toks (head_atBeg n) (moveFrontToNext_toks n) hw

theorem moveBackLoop_eq (n : Bool) : moveBackLoop n = G.moveBackLoop (wsep n) n := by
  funext fuel
  induction fuel with
  | zero => rfl
  | succ f ih =>
    funext i
    simp only [moveBackLoop, G.moveBackLoop, ih]
    rfl

theorem moveBackToNext_toks (n : Bool) {ts : List Tok} (hw : WFToks (wsep n) ts) :
    moveBackToNext n (untoks ts) = .ok (untoks (skipBack (!n) ts)) () := by
  unfold moveBackToNext
  rw [moveBackLoop_eq]
  exact G.moveBackToNext_toks n hw

theorem parseBack_toks (atBeg n : Bool) {ts : List Tok} (hw : WFToks (wsep n) ts) :
    parseBack atBeg n (untoks ts) = match backT (!n) atBeg ts with
      | some (c, ts') => .ok (untoks ts') c
      | none => .err :=
  G.parseBack_toks (fun h => moveBackToNext_toks n h) (fun h => parseFront_toks atBeg n h)
    (filename_eq n) (rootDir_eq n) (curDir_eq n) hw

end TP.Comb.Windows
