/-
Lemmas/ConvStep.lean — `with_encoding` and `with_encoding_checked` are folds of one step: push the
text the component stands for.  Whether the checked fold fails does not depend on the buffer, because
`push_checked` scans only its argument.
-/
import TypedPathVerif.Model.Path

namespace TP

/-- the text `with_encoding` pushes for a component (`none`: a disk prefix, skipped) -/
def convPiece (t : Enc) : Comp → Option Bytes
  | .pfx p => if (Comp.pfx p).isRoot then some [t.sepByte] else none
  | .root => some [t.sepByte]
  | .cur => some CUR
  | .parent => some PAR
  | .normal s => some s

/-- the error of the checked push of a component's text -/
def convErr (t : Enc) : Comp → Option CheckedErr
  | .normal s => checkedScan t 0 (comps t s)
  | _ => none

def convStep (t : Enc) (buf : Bytes) (c : Comp) : Bytes :=
  match convPiece t c with
  | some p => push t buf p
  | none => buf

theorem convPiece_cases {t : Enc} {c : Comp} {pc : Bytes} (h : convPiece t c = some pc) :
    pc = [t.sepByte] ∨ pc = c.bytes t := by
  cases c with
  | pfx p =>
    simp only [convPiece] at h
    split at h
    · exact .inl (Option.some.inj h).symm
    · cases h
  | _ => exact .inr (Option.some.inj h).symm

theorem convFold_cons (t : Enc) (buf : Bytes) (c : Comp) (cs : List Comp) :
    convFold t buf (c :: cs) = convFold t (convStep t buf c) cs := by
  cases c with
  | pfx p =>
    cases h : (Comp.pfx p).isRoot <;>
      simp only [convFold, convStep, convPiece, h, Comp.isCur, Comp.isParent, Comp.isNormal, Bool.false_eq_true,
        if_false, if_true]
  | _ => rfl

/-- without prefix components `with_encoding` pushes every component's text -/
theorem convFold_eq_pushAll (t : Enc) : ∀ (cs : List Comp) (buf : Bytes), (∀ c ∈ cs, c.isPfx = false) →
    convFold t buf cs = pushAll t buf cs
  | [], _, _ => rfl
  | c :: cs, buf, h => by
    have hc : convPiece t c = some (c.bytes t) := by
      cases c with
      | pfx p => cases h _ (List.mem_cons_self ..)
      | _ => rfl
    rw [convFold_cons, convStep, hc, pushAll,
      convFold_eq_pushAll t cs _ (fun x hx => h x (List.mem_cons_of_mem _ hx))]

theorem convFoldChecked_cons (t : Enc) (buf : Bytes) (c : Comp) (cs : List Comp) :
    convFoldChecked t buf (c :: cs) =
      match convErr t c with
      | some e => .error e
      | none => convFoldChecked t (convStep t buf c) cs := by
  cases c with
  | pfx p =>
    cases h : (Comp.pfx p).isRoot <;>
      simp only [convFoldChecked, convStep, convPiece, convErr, h, Comp.isCur, Comp.isParent, Comp.isNormal,
        Bool.false_eq_true, if_false, if_true]
  | normal s =>
    simp only [convFoldChecked, pushChecked, convErr, convStep, convPiece, Comp.isRoot, Comp.isCur, Comp.isParent,
      Comp.isNormal, Comp.bytes, Bool.false_eq_true, if_false, if_true]
    cases checkedScan t 0 (comps t s) <;> rfl
  | _ => rfl

/-- **The checked conversion is the unchecked one, unless some name is rejected.** -/
theorem convFoldChecked_eq (t : Enc) : ∀ (cs : List Comp) (buf : Bytes),
    convFoldChecked t buf cs =
      match cs.findSome? (convErr t) with
      | some e => .error e
      | none => .ok (convFold t buf cs)
  | [], _ => rfl
  | c :: cs, buf => by
    rw [convFoldChecked_cons, convFold_cons, List.findSome?_cons]
    cases convErr t c with
    | some e => rfl
    | none => exact convFoldChecked_eq t cs _

theorem withEncoding_ne {s t : Enc} (h : s ≠ t) (b : Bytes) : withEncoding s t b = convFold t [] (comps s b) := by
  rw [withEncoding, if_neg h]

theorem withEncodingChecked_ne {s t : Enc} (h : s ≠ t) (b : Bytes) :
    withEncodingChecked s t b = convFoldChecked t [] (comps s b) := by
  rw [withEncodingChecked, if_neg h]

end TP
