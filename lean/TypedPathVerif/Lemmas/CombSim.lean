/-
Lemmas/CombSim.lean — the `Parser` state machines of `Model/Comb` (byte slices, checked
indices, fuelled loops) simulate the token-level `PState` of `Model/Parser.lean` step by step,
and no step faults.
-/
import TypedPathVerif.Lemmas.CombPrefix
import TypedPathVerif.Lemmas.Reparse

namespace TP.Comb

namespace Unix

/-- the combinator state `c` and the token state `s` describe the same parser -/
structure Sim (c : St) (s : PState) : Prop where
  pre : s.pre = none
  atBeg : c.atBeg = s.atBeg
  k : s.k = false
  wf : WFToks usep s.toks
  input : c.input = untoks s.toks

theorem sim_new (b : Bytes) : Sim (St.new b) (Enc.new .unix b) :=
  ⟨rfl, rfl, rfl, WFToks_toks usep b, (untoks_toks usep b).symm⟩

theorem sim_remaining {c : St} {s : PState} (h : Sim c s) : c.remaining = s.remaining := by
  simp [St.remaining, PState.remaining, PState.preBytes, h.pre, h.input]

theorem sim_front {c : St} {s : PState} (h : Sim c s) :
    match s.nextFront with
    | some (x, s') => ∃ c', c.nextFront = .some x c' ∧ Sim c' s'
    | none => c.nextFront = .none := by
  unfold PState.nextFront St.nextFront
  rw [h.pre, h.input, h.atBeg, parseFront_toks s.atBeg h.wf, h.k]
  cases hf : frontT false s.atBeg s.toks with
  | none => rfl
  | some p => exact ⟨_, rfl, ⟨rfl, rfl, rfl, frontT_WF hf h.wf, rfl⟩⟩

theorem sim_back {c : St} {s : PState} (h : Sim c s) :
    match s.nextBack with
    | some (x, s') => ∃ c', c.nextBack = .some x c' ∧ Sim c' s'
    | none => c.nextBack = .none := by
  unfold PState.nextBack St.nextBack
  rw [h.pre, h.input, h.atBeg, parseBack_toks s.atBeg h.wf, h.k]
  by_cases hne : s.toks = []
  · simp [hne, backT, skipBack, frontT]
  · simp only [ne_eq, hne, not_false_eq_true, if_true]
    cases hb : backT false s.atBeg s.toks with
    | none => simp
    | some p => exact ⟨_, rfl, ⟨rfl, rfl, rfl, backT_WF hb h.wf, rfl⟩⟩

end Unix

namespace Windows

structure Sim (c : St) (s : PState) : Prop where
  pre : c.pre = s.pre
  atBeg : c.atBeg = s.atBeg
  k : s.k = !c.normalize
  wf : WFToks (wsep c.normalize) s.toks
  input : c.input = s.preBytes ++ untoks s.toks

theorem sim_new (b : Bytes) : ∃ c, St.new b = .ok c ∧ Sim c (Enc.new .windows b) := by
  unfold St.new Enc.new
  simp only [maybe, prefixComponent_eq]
  cases hp : parsePrefixComp b with
  | none =>
    refine ⟨_, rfl, ⟨rfl, rfl, rfl, WFToks_toks _ b, ?_⟩⟩
    simp [PState.preBytes, untoks_toks]
  | some p =>
    obtain ⟨pc, rest⟩ := p
    refine ⟨_, rfl, ⟨rfl, rfl, rfl, WFToks_toks _ rest, ?_⟩⟩
    simp only [PState.preBytes, untoks_toks]
    exact (parsePrefixComp_raw hp).symm

theorem sim_remaining {c : St} {s : PState} (h : Sim c s) : c.remaining = s.remaining := by
  simp [St.remaining, PState.remaining, h.input]

theorem Sim.prefixLen {c : St} {s : PState} (h : Sim c s) : c.prefixLen = s.preBytes.length := by
  unfold St.prefixLen PState.preBytes
  rw [h.pre]
  cases s.pre <;> rfl

theorem sim_front {c : St} {s : PState} (h : Sim c s) :
    match s.nextFront with
    | some (x, s') => ∃ c', c.nextFront = .some x c' ∧ Sim c' s'
    | none => c.nextFront = .none := by
  unfold PState.nextFront St.nextFront
  rw [h.pre, h.input]
  cases hp : s.pre with
  | some p =>
    simp only [PState.preBytes, hp, sliceFrom_append]
    exact ⟨_, rfl, ⟨rfl, h.atBeg, h.k, h.wf, rfl⟩⟩
  | none =>
    simp only [PState.preBytes, hp, List.nil_append, h.atBeg, parseFront_toks s.atBeg c.normalize h.wf, h.k]
    cases hf : frontT (!c.normalize) s.atBeg s.toks with
    | none => rfl
    | some q => exact ⟨_, rfl, ⟨rfl, rfl, rfl, frontT_WF hf h.wf, rfl⟩⟩

theorem sim_back {c : St} {s : PState} (h : Sim c s) :
    match s.nextBack with
    | some (x, s') => ∃ c', c.nextBack = .some x c' ∧ Sim c' s'
    | none => c.nextBack = .none := by
  unfold PState.nextBack St.nextBack
  rw [h.input, h.prefixLen]
  simp only [sliceFrom_append]
  by_cases hne : s.toks = []
  · -- nothing behind the prefix: hand out the prefix, if it is still there
    simp only [hne, untoks, List.isEmpty_nil, Bool.not_true, Bool.false_eq_true, if_false, ne_eq,
      not_true_eq_false, h.pre]
    cases hp : s.pre with
    | none => rfl
    | some p => exact ⟨_, rfl, ⟨rfl, h.atBeg, h.k, hne ▸ h.wf, rfl⟩⟩
  · have hie : (untoks s.toks).isEmpty = false := by
      rw [untoks_isEmpty h.wf]
      simp [hne]
    simp only [hie, Bool.not_false, if_true, ne_eq, hne, not_false_eq_true, h.atBeg,
      parseBack_toks s.atBeg c.normalize h.wf, h.k]
    cases hb : backT (!c.normalize) s.atBeg s.toks with
    | none => rfl
    | some q =>
      -- what is left is a leading part of the tokens: the slice `..len + prefix_len` is in range
      obtain ⟨j, hj⟩ := backT_prefix hb
      have hst : sliceTo (s.preBytes ++ untoks s.toks) ((untoks q.2).length + s.preBytes.length) =
          some (s.preBytes ++ untoks q.2) := by
        rw [hj, TP.untoks_append, ← List.append_assoc, Nat.add_comm, ← List.length_append, sliceTo_append]
      simp only [hst]
      exact ⟨_, rfl, ⟨h.pre, rfl, rfl, backT_WF hb h.wf, rfl⟩⟩

end Windows

end TP.Comb
