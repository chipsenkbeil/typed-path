/-
Lemmas/WinPrefix.lean — what the byte-level Windows prefix parser (`parsePrefix`, Model/Enc.lean)
accepts, said once: `parsePrefix b = some (k, rest) ↔ ∃ raw, b = raw ++ rest ∧ Shape raw k rest`
(`parsePrefix_iff`), where `Shape` is the grammar of the seven forms a prefix text can take.
Everything else that is known about the parser — the per-kind characterisations of C02b / C02c, the
header of each kind, when no prefix is found, that the rest is cut at a separator or after `:`, which
prefixes are parsed again identically when the text after them is exchanged — is read off `Shape` by
`cases` or by applying a constructor.

The file goes bottom-up: the field parsers (`takeNormal`, `takeSep`, `verbatimHdr`, `diskByte`,
`takeUNC`) each get an `_iff` (`verbatimHdr` its two directions apart, `_some` and `_mk`); `serverShare` gets the three-form grammar `SrvShr`; each of the six
alternatives gets an `_iff` on its own; `parsePrefix_iff` then only has to settle which earlier
alternatives reject an input that a later one accepts.
-/
import TypedPathVerif.Model.Enc

namespace TP.Win

/-- the `normalize` flag of the bytes `raw`; for the text of a parsed prefix it is that of the whole path (`normOf_raw`) -/
def normOf (raw : Bytes) : Bool := !startsWith raw VERB

/-- "nothing, or a byte satisfying `f`, comes next" -/
def HeadOK (f : UInt8 → Bool) : Bytes → Prop
  | [] => True
  | x :: _ => f x = true

/-- `bytes(b"UNC")` as a name -/
def UNCNAME : Bytes := [85, 78, 67]

/-- does the name start like a drive (`X:`)? then the verbatim-disk alternative takes it -/
def startsLetterColon : Bytes → Bool
  | d :: c :: _ => isAsciiAlpha d && decide (c = COLON)
  | _ => false

/-! ### separators, `HeadOK` -/

theorem anySep_iff {x : UInt8} : anySep x = true ↔ x = BSLASH ∨ x = SLASH := by
  simp [anySep, wsep]

theorem wsep_imp_anySep {norm : Bool} {y : UInt8} (h : wsep norm y = true) : anySep y = true := by
  cases norm
  · exact anySep_iff.mpr (Or.inl (by simpa [wsep] using h))
  · exact h

theorem not_wsep_of_not_anySep {norm : Bool} {y : UInt8} (h : anySep y = false) : wsep norm y = false :=
  Bool.eq_false_iff.mpr fun hw => Bool.eq_false_iff.mp h (wsep_imp_anySep hw)

theorem wsep_bslash (n : Bool) : wsep n BSLASH = true := by
  cases n <;> decide

theorem wsep_dot (n : Bool) : wsep n DOT = false := by
  cases n <;> decide

theorem anySep_ne {x : UInt8} (h : anySep x = true) :
    isAsciiAlpha x = false ∧ x ≠ COLON ∧ x ≠ QMARK ∧ x ≠ DOT := by
  rcases anySep_iff.mp h with h | h <;> subst h <;> decide

theorem anySep_alpha {d : UInt8} (h : isAsciiAlpha d = true) : anySep d = false :=
  Bool.eq_false_iff.mpr fun hs => Bool.false_ne_true ((anySep_ne hs).1.symm.trans h)

theorem unc_free (n : Bool) : ∀ y ∈ UNCNAME, wsep n y = false := by
  intro y hy
  simp only [UNCNAME, List.mem_cons, List.not_mem_nil, or_false] at hy
  rcases hy with rfl | rfl | rfl <;> cases n <;> decide

theorem headOK_anySep {n : Bool} {R : Bytes} (h : HeadOK (wsep n) R) : HeadOK (wsep true) R := by
  cases R with
  | nil => trivial
  | cons x t => exact wsep_imp_anySep (norm := n) h

theorem headOK_prefix {f : UInt8 → Bool} {x y : Bytes} (h : HeadOK f (x ++ y)) : HeadOK f x := by
  cases x with
  | nil => trivial
  | cons a t => exact h

theorem headOK_match (f : UInt8 → Bool) (r : Bytes) :
    HeadOK f r ↔ (match r with | x :: _ => f x = true | [] => True) := by
  cases r <;> exact Iff.rfl

/-! ### the field parsers -/

/-- `x` is a field of the path (non-empty, free of the separators in force) and `r`, the text after it,
is the end or starts with a separator: what `normal_bytes` asks of its input `x ++ r` -/
def Field (norm : Bool) (x r : Bytes) : Prop :=
  x ≠ [] ∧ (∀ y ∈ x, wsep norm y = false) ∧ HeadOK (wsep norm) r

theorem takeNormal_iff {norm : Bool} {b x r : Bytes} :
    takeNormal norm b = some (x, r) ↔ b = x ++ r ∧ Field norm x r := by
  unfold takeNormal Field
  constructor
  · intro h
    simp only at h
    split at h
    · cases h
    · rename_i hne
      simp only [Option.some.injEq, Prod.mk.injEq] at h
      obtain ⟨rfl, rfl⟩ := h
      refine ⟨List.takeWhile_append_dropWhile.symm, hne, fun y hy => ?_, ?_⟩
      · simpa using List.all_eq_true.mp List.all_takeWhile y hy
      · have := List.head?_dropWhile_not (fun x => !wsep norm x) b
        cases hd : b.dropWhile (fun x => !wsep norm x) with
        | nil => trivial
        | cons x r' =>
          rw [hd] at this
          simpa [HeadOK] using this
  · rintro ⟨rfl, hne, hfree, hr⟩
    have hx : ∀ y ∈ x, (!wsep norm y) = true := fun y hy => congrArg (!·) (hfree y hy)
    have hr' : r.takeWhile (fun x => !wsep norm x) = [] ∧ r.dropWhile (fun x => !wsep norm x) = r := by
      cases r with
      | nil => exact ⟨rfl, rfl⟩
      | cons y t =>
        have : wsep norm y = true := hr
        simp only [List.takeWhile_cons, List.dropWhile_cons, this, Bool.not_true, Bool.false_eq_true, if_false,
          and_self]
    rw [List.takeWhile_append_of_pos hx, List.dropWhile_append_of_pos hx, hr'.1, hr'.2, List.append_nil,
      if_neg hne]

theorem takeNormal_none_iff {norm : Bool} {r : Bytes} : takeNormal norm r = none ↔ HeadOK (wsep norm) r := by
  cases r with
  | nil => simp [takeNormal, HeadOK]
  | cons x t => cases hx : wsep norm x <;> simp [takeNormal, HeadOK, hx]

theorem Field.unique {norm : Bool} {x r x' r' : Bytes} (h : Field norm x r) (h' : Field norm x' r')
    (e : x ++ r = x' ++ r') : x = x' ∧ r = r' := by
  have := (takeNormal_iff.mpr ⟨rfl, h⟩).symm.trans (takeNormal_iff.mpr ⟨e, h'⟩)
  simpa using this

theorem Field.eq_singleton {n : Bool} {sv tail t : Bytes} {q x : UInt8} (hf : Field n sv tail)
    (hq : wsep n q = false) (hx : wsep n x = true) (e : sv ++ tail = q :: x :: t) : sv = [q] ∧ tail = x :: t :=
  hf.unique (x' := [q]) (r' := x :: t)
    ⟨List.cons_ne_nil _ _, fun _ hy => List.mem_singleton.mp hy ▸ hq, hx⟩ e

theorem Field.not_headOK {norm : Bool} {x r : Bytes} (hf : Field norm x r) : ¬ HeadOK (wsep norm) (x ++ r) :=
  fun h => by cases (takeNormal_none_iff.mpr h).symm.trans (takeNormal_iff.mpr ⟨rfl, hf⟩)

theorem startsLetterColon_eq (v : Bytes) : startsLetterColon v = (diskByte v).isSome := by
  match v with
  | [] | [_] => rfl
  | d :: c :: _ =>
    simp only [startsLetterColon, diskByte]
    cases isAsciiAlpha d && decide (c = COLON) <;> rfl

theorem Field.startsLetterColon_append {n : Bool} {name rest : Bytes} (hf : Field n name rest) :
    startsLetterColon (name ++ rest) = startsLetterColon name := by
  match name, rest, hf with
  | [], _, hf => exact absurd rfl hf.1
  | [d], [], _ => rfl
  | [d], c :: _, hf =>
    have : c ≠ COLON := fun e => (anySep_ne (wsep_imp_anySep (e ▸ hf.2.2 : wsep n COLON = true))).2.1 rfl
    simp [startsLetterColon, this]
  | _ :: _ :: _, _, _ => rfl

theorem takeSep_iff {norm : Bool} {b r : Bytes} :
    takeSep norm b = some r ↔ ∃ x, b = x :: r ∧ wsep norm x = true := by
  constructor
  · intro h
    match b, h with
    | y :: t, h =>
      simp only [takeSep] at h
      split at h
      · cases h
        exact ⟨y, rfl, ‹_›⟩
      · cases h
  · rintro ⟨x, rfl, hx⟩
    simp only [takeSep, hx, if_true]

theorem maybeSep_cons_sep {norm : Bool} {x : UInt8} (t : Bytes) (h : wsep norm x = true) :
    maybeSep norm (x :: t) = t := by simp only [maybeSep, takeSep, h, if_true]

theorem verbatimHdr_eq (s1 s2 q c : UInt8) (r : Bytes) :
    verbatimHdr (s1 :: s2 :: q :: c :: r) =
      if anySep s1 && anySep s2 && q = QMARK && anySep c then some r else none := rfl

theorem verbatimHdr_mk {s1 s2 s3 : UInt8} (h1 : anySep s1 = true) (h2 : anySep s2 = true) (h3 : anySep s3 = true)
    (v : Bytes) : verbatimHdr (s1 :: s2 :: QMARK :: s3 :: v) = some v := by
  simp only [verbatimHdr_eq, h1, h2, h3, decide_true, Bool.and_self, if_true]

theorem verbatimHdr_some {b r : Bytes} (h : verbatimHdr b = some r) :
    ∃ s1 s2 s3, b = s1 :: s2 :: QMARK :: s3 :: r ∧ anySep s1 = true ∧ anySep s2 = true ∧ anySep s3 = true := by
  match b, h with
  | s1 :: s2 :: q :: s3 :: r', h =>
    rw [verbatimHdr_eq] at h
    split at h
    · rename_i hh
      simp only [Bool.and_eq_true, decide_eq_true_eq] at hh
      obtain ⟨⟨⟨h1, h2⟩, rfl⟩, h3⟩ := hh
      cases h
      exact ⟨s1, s2, s3, rfl, h1, h2, h3⟩
    · cases h

theorem diskByte_iff {b r : Bytes} {D : UInt8} :
    diskByte b = some (D, r) ↔ ∃ d, b = d :: COLON :: r ∧ isAsciiAlpha d = true ∧ D = toAsciiUpper d := by
  constructor
  · intro h
    match b, h with
    | d :: c :: t, h =>
      simp only [diskByte] at h
      split at h
      · rename_i hh
        simp only [Bool.and_eq_true, decide_eq_true_eq] at hh
        obtain ⟨hd, rfl⟩ := hh
        cases h
        exact ⟨d, rfl, hd, rfl⟩
      · cases h
  · rintro ⟨d, rfl, hd, rfl⟩
    simp only [diskByte, hd, decide_true, Bool.and_self, if_true]

theorem takeUNC_iff {b r : Bytes} : takeUNC b = some r ↔ b = UNCNAME ++ r := by
  unfold takeUNC
  split
  · simp [UNCNAME, eq_comm]
  · rename_i h
    simp only [UNCNAME, List.cons_append, List.nil_append, false_iff, reduceCtorEq]
    rintro rfl
    exact h r rfl

/-! ### server and share -/

/-- The text `w` after the UNC lead-in, read as server and share when `rest` follows it:
`server sep share`, a bare `server` at the end of the input, or `server sep` with no share following (the
separator is consumed; what follows is the end or a second separator). -/
inductive SrvShr (n : Bool) : Bytes → Bytes → Bytes → Bytes → Prop
  | share {sv sh rest : Bytes} {x : UInt8} (hsv : Field n sv (x :: (sh ++ rest))) (hsh : Field n sh rest) :
      SrvShr n (sv ++ x :: sh) sv sh rest
  | bare {sv : Bytes} (hsv : Field n sv []) : SrvShr n sv sv [] []
  | sep {sv rest : Bytes} {x : UInt8} (hsv : Field n sv (x :: rest)) (hr : HeadOK (wsep n) rest) :
      SrvShr n (sv ++ [x]) sv [] rest

theorem serverShare_iff {n : Bool} {b sv sh rest : Bytes} :
    serverShare n b = some (sv, sh, rest) ↔ ∃ w, b = w ++ rest ∧ SrvShr n w sv sh rest := by
  unfold serverShare
  constructor
  · intro h
    cases h1 : takeNormal n b with
    | none =>
      rw [h1] at h
      cases h
    | some u =>
      obtain ⟨s, r1⟩ := u
      obtain ⟨rfl, hf⟩ := takeNormal_iff.mp h1
      simp only [h1] at h
      cases r1 with
      | nil =>
        simp only [maybeSep, takeSep, takeNormal_none_iff.mpr (show HeadOK (wsep n) [] from trivial),
          Option.some.injEq, Prod.mk.injEq] at h
        obtain ⟨rfl, rfl, rfl⟩ := h
        exact ⟨_, rfl, .bare hf⟩
      | cons x t =>
        rw [maybeSep_cons_sep t hf.2.2] at h
        cases h2 : takeNormal n t with
        | none =>
          simp only [h2, Option.some.injEq, Prod.mk.injEq] at h
          obtain ⟨rfl, rfl, rfl⟩ := h
          exact ⟨_, (List.append_cons ..), .sep hf (takeNormal_none_iff.mp h2)⟩
        | some u =>
          obtain ⟨s', r2⟩ := u
          obtain ⟨rfl, hf2⟩ := takeNormal_iff.mp h2
          simp only [h2, Option.some.injEq, Prod.mk.injEq] at h
          obtain ⟨rfl, rfl, rfl⟩ := h
          exact ⟨_, by rw [List.append_assoc, List.cons_append], .share hf hf2⟩
  · rintro ⟨w, rfl, hw⟩
    cases hw with
    | share hsv hsh =>
      rw [List.append_assoc, List.cons_append]
      simp only [takeNormal_iff.mpr ⟨rfl, hsv⟩, maybeSep_cons_sep _ hsv.2.2, takeNormal_iff.mpr ⟨rfl, hsh⟩]
    | bare hsv =>
      simp only [takeNormal_iff.mpr ⟨rfl, hsv⟩, maybeSep, takeSep,
        takeNormal_none_iff.mpr (show HeadOK (wsep n) [] from trivial)]
    | sep hsv hr =>
      rw [← List.append_cons]
      simp only [takeNormal_iff.mpr ⟨rfl, hsv⟩, maybeSep_cons_sep _ hsv.2.2, takeNormal_none_iff.mpr hr]

theorem serverShare_none_iff {n : Bool} {r : Bytes} : serverShare n r = none ↔ HeadOK (wsep n) r := by
  rw [← takeNormal_none_iff]
  unfold serverShare
  cases takeNormal n r with
  | none => simp
  | some w =>
    simp only [reduceCtorEq, iff_false]
    split <;> simp

theorem SrvShr.headOK {n : Bool} {w sv sh rest : Bytes} (h : SrvShr n w sv sh rest) : HeadOK (wsep n) rest := by
  cases h with
  | share _ hsh => exact hsh.2.2
  | bare _ => trivial
  | sep _ hr => exact hr

/-- `t = []` is the bare server, which ends the input -/
theorem SrvShr.raw {n : Bool} {w sv sh rest : Bytes} (h : SrvShr n w sv sh rest) :
    ∃ t, w = sv ++ t ∧ sv ≠ [] ∧ (∀ y ∈ sv, wsep n y = false) ∧ (t = [] → rest = []) := by
  cases h with
  | share hsv _ => exact ⟨_, rfl, hsv.1, hsv.2.1, nofun⟩
  | bare hsv => exact ⟨[], (List.append_nil _).symm, hsv.1, hsv.2.1, fun _ => rfl⟩
  | sep hsv _ => exact ⟨_, rfl, hsv.1, hsv.2.1, nofun⟩

/-- for the one-byte servers `?` and `.` (`q`): without a share the text is `q x` -/
theorem SrvShr.two {n : Bool} {w sv sh rest t : Bytes} {q x : UInt8} (h : SrvShr n w sv sh rest)
    (hq : wsep n q = false) (hx : wsep n x = true) (e : w ++ rest = q :: x :: t) :
    sv = [q] ∧ (sh = [] → w = [q, x] ∧ rest = t) := by
  cases h with
  | share hsv hsh =>
    rw [List.append_assoc, List.cons_append] at e
    exact ⟨(hsv.eq_singleton hq hx e).1, fun e => absurd e hsh.1⟩
  | bare hsv => cases (hsv.eq_singleton hq hx e).2
  | sep hsv _ =>
    rw [← List.append_cons] at e
    obtain ⟨rfl, e⟩ := hsv.eq_singleton hq hx e
    cases e
    exact ⟨rfl, fun _ => ⟨rfl, rfl⟩⟩

/-! ### the six alternatives, each on its own -/

theorem startsWith_append_long (raw rest : Bytes) (h : 4 ≤ raw.length) :
    startsWith (raw ++ rest) VERB = startsWith raw VERB :=
  -- the test reads four bytes, and they are all of `raw`
  match raw, h with
  | _ :: _ :: _ :: _ :: _, _ => rfl

theorem startsWith_hdr (s1 s2 q s3 : UInt8) (t : Bytes) :
    startsWith (s1 :: s2 :: q :: s3 :: t) VERB = startsWith [s1, s2, q, s3] VERB :=
  startsWith_append_long [s1, s2, q, s3] t (Nat.le_refl 4)

theorem startsWith_VERB_iff {b : Bytes} :
    startsWith b VERB = true ↔ ∃ t, b = BSLASH :: BSLASH :: QMARK :: BSLASH :: t := by
  unfold startsWith
  rw [List.isPrefixOf_iff_prefix]
  exact ⟨fun ⟨t, e⟩ => ⟨t, e.symm⟩, fun ⟨t, e⟩ => ⟨t, e.symm⟩⟩

theorem startsWith_alpha {d : UInt8} (hd : isAsciiAlpha d = true) (t : Bytes) : startsWith (d :: t) VERB = false :=
  Bool.eq_false_iff.mpr fun h => by
    obtain ⟨_, e⟩ := startsWith_VERB_iff.mp h
    cases e
    exact absurd hd (by decide)

theorem normOf_hdr (s1 s2 q s3 : UInt8) (t : Bytes) :
    normOf (s1 :: s2 :: q :: s3 :: t) = !startsWith [s1, s2, q, s3] VERB :=
  congrArg (!·) (startsWith_hdr ..)

theorem normOf_dot (s1 s2 s3 : UInt8) (t : Bytes) : normOf (s1 :: s2 :: DOT :: s3 :: t) = true := by
  simp [normOf_hdr, startsWith, VERB, List.isPrefixOf, DOT, QMARK]

theorem verbatim_alts_none {b : Bytes} (hv : verbatimHdr b = none) :
    prefixVerbatimUNC b = none ∧ prefixVerbatimDisk b = none ∧ prefixVerbatim b = none := by
  simp [prefixVerbatimUNC, prefixVerbatimDisk, prefixVerbatim, hv]

theorem prefixVerbatimUNC_iff {b v rest : Bytes} {k : WPrefix} (hv : verbatimHdr b = some v) :
    prefixVerbatimUNC b = some (k, rest) ↔
      ∃ x0 w sv sh, v = UNCNAME ++ x0 :: (w ++ rest) ∧ wsep (!startsWith b VERB) x0 = true ∧
        SrvShr (!startsWith b VERB) w sv sh rest ∧ k = .verbatimUNC sv sh := by
  simp only [prefixVerbatimUNC, hv]
  constructor
  · intro h
    cases h2 : takeUNC v with
    | none =>
      rw [h2] at h
      cases h
    | some r2 =>
      simp only [h2] at h
      cases h3 : takeSep (!startsWith b VERB) r2 with
      | none =>
        rw [h3] at h
        cases h
      | some r3 =>
        simp only [h3] at h
        cases h4 : serverShare (!startsWith b VERB) r3 with
        | none =>
          rw [h4] at h
          cases h
        | some t =>
          obtain ⟨sv, sh, r⟩ := t
          simp only [h4, Option.some.injEq, Prod.mk.injEq] at h
          obtain ⟨rfl, rfl⟩ := h
          obtain ⟨x0, rfl, hx0⟩ := takeSep_iff.mp h3
          obtain ⟨w, rfl, hw⟩ := serverShare_iff.mp h4
          exact ⟨x0, w, sv, sh, takeUNC_iff.mp h2, hx0, hw, rfl⟩
  · rintro ⟨x0, w, sv, sh, rfl, hx0, hw, rfl⟩
    simp only [takeUNC_iff.mpr rfl, takeSep_iff.mpr ⟨x0, rfl, hx0⟩, serverShare_iff.mpr ⟨w, rfl, hw⟩]

theorem prefixVerbatimUNC_none_iff {b v : Bytes} (hv : verbatimHdr b = some v) :
    prefixVerbatimUNC b = none ↔
      ∀ x0 r, v = UNCNAME ++ x0 :: r → wsep (!startsWith b VERB) x0 = true → HeadOK (wsep (!startsWith b VERB)) r := by
  constructor
  · intro a1 x0 r e hx0
    rw [← serverShare_none_iff]
    cases hs : serverShare (!startsWith b VERB) r with
    | none => rfl
    | some u =>
      obtain ⟨w, rfl, hw⟩ := serverShare_iff.mp hs
      cases a1.symm.trans ((prefixVerbatimUNC_iff hv).mpr ⟨x0, w, _, _, e, hx0, hw, rfl⟩)
  · intro h
    refine Option.eq_none_iff_forall_ne_some.mpr fun ⟨k, rest⟩ a => ?_
    obtain ⟨x0, w, sv, sh, e, hx0, hw, _⟩ := (prefixVerbatimUNC_iff hv).mp a
    cases (serverShare_none_iff.mpr (h x0 _ e hx0)).symm.trans (serverShare_iff.mpr ⟨w, rfl, hw⟩)

theorem prefixVerbatimDisk_iff {b v rest : Bytes} {k : WPrefix} (hv : verbatimHdr b = some v) :
    prefixVerbatimDisk b = some (k, rest) ↔
      ∃ d, v = d :: COLON :: rest ∧ isAsciiAlpha d = true ∧ k = .verbatimDisk (toAsciiUpper d) := by
  simp only [prefixVerbatimDisk, hv]
  constructor
  · intro h
    cases h2 : diskByte v with
    | none =>
      rw [h2] at h
      cases h
    | some t =>
      obtain ⟨D, r⟩ := t
      simp only [h2, Option.some.injEq, Prod.mk.injEq] at h
      obtain ⟨rfl, rfl⟩ := h
      obtain ⟨d, rfl, hd, rfl⟩ := diskByte_iff.mp h2
      exact ⟨d, rfl, hd, rfl⟩
  · rintro ⟨d, rfl, hd, rfl⟩
    simp only [diskByte_iff.mpr ⟨d, rfl, hd, rfl⟩]

theorem prefixVerbatimDisk_none_iff {b v : Bytes} (hv : verbatimHdr b = some v) :
    prefixVerbatimDisk b = none ↔ startsLetterColon v = false := by
  simp only [prefixVerbatimDisk, hv, startsLetterColon_eq]
  cases diskByte v <;> simp

theorem prefixVerbatim_iff {b v rest : Bytes} {k : WPrefix} (hv : verbatimHdr b = some v)
    (a1 : prefixVerbatimUNC b = none) (a2 : prefixVerbatimDisk b = none) :
    prefixVerbatim b = some (k, rest) ↔
      (∃ name, v = name ++ rest ∧ Field (!startsWith b VERB) name rest ∧ k = .verbatim name) ∨
      (∃ x t, v = x :: t ∧ wsep (!startsWith b VERB) x = true ∧ rest = v ∧ k = .verbatim []) := by
  simp only [prefixVerbatim, a1, a2, hv, Option.isSome_none, Bool.false_eq_true, if_false]
  cases h2 : takeNormal (!startsWith b VERB) v with
  | some t =>
    obtain ⟨name, r⟩ := t
    obtain ⟨rfl, hf⟩ := takeNormal_iff.mp h2
    simp only [Option.some.injEq, Prod.mk.injEq]
    constructor
    · rintro ⟨rfl, rfl⟩
      exact Or.inl ⟨name, rfl, hf, rfl⟩
    · rintro (⟨name', e, hf', rfl⟩ | ⟨x, t, e, hx, rfl, rfl⟩)
      · obtain ⟨rfl, rfl⟩ := hf.unique hf' e
        exact ⟨rfl, rfl⟩
      · exact absurd (e ▸ hx : HeadOK _ (name ++ r)) hf.not_headOK
  | none =>
    have hh := takeNormal_none_iff.mp h2
    cases v with
    | nil =>
      simp only [takeSep, reduceCtorEq, false_iff]
      rintro (⟨name, e, hf, _⟩ | ⟨_, _, e, _⟩)
      · exact hf.1 (List.append_eq_nil_iff.mp e.symm).1
      · cases e
    | cons x t =>
      have hx : wsep (!startsWith b VERB) x = true := hh
      simp only [takeSep, hx, if_true, Option.some.injEq, Prod.mk.injEq]
      constructor
      · rintro ⟨rfl, rfl⟩
        exact Or.inr ⟨x, t, rfl, hx, rfl, rfl⟩
      · rintro (⟨name, e, hf, rfl⟩ | ⟨_, _, _, _, rfl, rfl⟩)
        · exact absurd (e ▸ hh : HeadOK _ (name ++ rest)) hf.not_headOK
        · exact ⟨rfl, rfl⟩

theorem prefixVerbatim_ne_none {b v : Bytes} (hv : verbatimHdr b = some v) (hne : v ≠ [])
    (a1 : prefixVerbatimUNC b = none) (a2 : prefixVerbatimDisk b = none) : prefixVerbatim b ≠ none := by
  intro a3
  cases h2 : takeNormal (!startsWith b VERB) v with
  | some t =>
    obtain ⟨e, hf⟩ := takeNormal_iff.mp h2
    cases a3.symm.trans ((prefixVerbatim_iff hv a1 a2).mpr (.inl ⟨t.1, e, hf, rfl⟩))
  | none =>
    cases v with
    | nil => exact hne rfl
    | cons x t =>
      cases a3.symm.trans
        ((prefixVerbatim_iff hv a1 a2).mpr (.inr ⟨x, t, rfl, takeNormal_none_iff.mp h2, rfl, rfl⟩))

theorem prefixDeviceNS_iff {b rest : Bytes} {k : WPrefix} :
    prefixDeviceNS b = some (k, rest) ↔
      ∃ s1 s2 s3 dev, b = s1 :: s2 :: DOT :: s3 :: (dev ++ rest) ∧ anySep s1 = true ∧ anySep s2 = true ∧
        anySep s3 = true ∧ Field true dev rest ∧ k = .deviceNS dev := by
  constructor
  · intro h
    match b, h with
    | s1 :: s2 :: d :: s3 :: v, h =>
      simp only [prefixDeviceNS] at h
      split at h
      · rename_i hh
        simp only [Bool.and_eq_true, decide_eq_true_eq] at hh
        obtain ⟨⟨⟨h1, h2⟩, rfl⟩, h3⟩ := hh
        cases h4 : takeNormal true v with
        | none =>
          rw [h4] at h
          cases h
        | some t =>
          obtain ⟨dev, r⟩ := t
          simp only [h4, Option.some.injEq, Prod.mk.injEq] at h
          obtain ⟨rfl, rfl⟩ := h
          obtain ⟨rfl, hf⟩ := takeNormal_iff.mp h4
          exact ⟨s1, s2, s3, dev, rfl, h1, h2, h3, hf, rfl⟩
      · cases h
  · rintro ⟨_, _, _, dev, rfl, h1, h2, h3, hf, rfl⟩
    simp only [prefixDeviceNS, h1, h2, h3, decide_true, Bool.and_self, if_true, takeNormal_iff.mpr ⟨rfl, hf⟩]

theorem prefixUNC_iff {b rest : Bytes} {k : WPrefix} :
    prefixUNC b = some (k, rest) ↔
      ∃ s1 s2 w sv sh, b = s1 :: s2 :: (w ++ rest) ∧ anySep s1 = true ∧ anySep s2 = true ∧
        SrvShr true w sv sh rest ∧ k = .unc sv sh := by
  constructor
  · intro h
    match b, h with
    | s1 :: s2 :: v, h =>
      simp only [prefixUNC] at h
      split at h
      · rename_i hh
        simp only [Bool.and_eq_true] at hh
        cases h4 : serverShare true v with
        | none =>
          rw [h4] at h
          cases h
        | some t =>
          obtain ⟨sv, sh, r⟩ := t
          simp only [h4, Option.some.injEq, Prod.mk.injEq] at h
          obtain ⟨rfl, rfl⟩ := h
          obtain ⟨w, rfl, hw⟩ := serverShare_iff.mp h4
          exact ⟨s1, s2, w, sv, sh, rfl, hh.1, hh.2, hw, rfl⟩
      · cases h
  · rintro ⟨_, _, w, sv, sh, rfl, h1, h2, hw, rfl⟩
    simp only [prefixUNC, h1, h2, Bool.and_self, if_true, serverShare_iff.mpr ⟨w, rfl, hw⟩]

theorem prefixDisk_iff {b rest : Bytes} {k : WPrefix} :
    prefixDisk b = some (k, rest) ↔
      ∃ d, b = d :: COLON :: rest ∧ isAsciiAlpha d = true ∧ k = .disk (toAsciiUpper d) := by
  unfold prefixDisk
  constructor
  · intro h
    cases h2 : diskByte b with
    | none =>
      rw [h2] at h
      cases h
    | some t =>
      obtain ⟨D, r⟩ := t
      simp only [h2, Option.some.injEq, Prod.mk.injEq] at h
      obtain ⟨rfl, rfl⟩ := h
      obtain ⟨d, rfl, hd, rfl⟩ := diskByte_iff.mp h2
      exact ⟨d, rfl, hd, rfl⟩
  · rintro ⟨d, rfl, hd, rfl⟩
    simp only [diskByte_iff.mpr ⟨d, rfl, hd, rfl⟩]

/-! ### the grammar of prefixes -/

/-- `Shape raw k rest`: the text `raw`, when `rest` follows it, is a prefix of kind `k`.  One form per
alternative of the parser, two for `prefix_verbatim`; the side conditions say that no earlier alternative
accepts the same input. -/
inductive Shape : Bytes → WPrefix → Bytes → Prop
  | disk {d : UInt8} {rest : Bytes} (hd : isAsciiAlpha d = true) : Shape [d, COLON] (.disk (toAsciiUpper d)) rest
  /-- `sep sep server …`; a server `?` is one only when no verbatim form applies (nothing after its
  separator), a server `.` only when no device name follows -/
  | unc {s1 s2 : UInt8} {w sv sh rest : Bytes} (h1 : anySep s1 = true) (h2 : anySep s2 = true)
      (hw : SrvShr true w sv sh rest) (hq : sv = [QMARK] → sh = [] ∧ rest = []) (hd : sv = [DOT] → sh = []) :
      Shape (s1 :: s2 :: w) (.unc sv sh) rest
  | deviceNS {s1 s2 s3 : UInt8} {dev rest : Bytes} (h1 : anySep s1 = true) (h2 : anySep s2 = true)
      (h3 : anySep s3 = true) (hf : Field true dev rest) : Shape (s1 :: s2 :: DOT :: s3 :: dev) (.deviceNS dev) rest
  | verbatimDisk {s1 s2 s3 d : UInt8} {rest : Bytes} (h1 : anySep s1 = true) (h2 : anySep s2 = true)
      (h3 : anySep s3 = true) (hd : isAsciiAlpha d = true) :
      Shape [s1, s2, QMARK, s3, d, COLON] (.verbatimDisk (toAsciiUpper d)) rest
  | verbatimUNC {s1 s2 s3 x0 : UInt8} {w sv sh rest : Bytes} (h1 : anySep s1 = true) (h2 : anySep s2 = true)
      (h3 : anySep s3 = true) (hx0 : wsep (!startsWith [s1, s2, QMARK, s3] VERB) x0 = true)
      (hw : SrvShr (!startsWith [s1, s2, QMARK, s3] VERB) w sv sh rest) :
      Shape (s1 :: s2 :: QMARK :: s3 :: 85 :: 78 :: 67 :: x0 :: w) (.verbatimUNC sv sh) rest
  /-- a name that is not a drive; the name `UNC` only when no server follows -/
  | verbatim {s1 s2 s3 : UInt8} {name rest : Bytes} (h1 : anySep s1 = true) (h2 : anySep s2 = true)
      (h3 : anySep s3 = true) (hf : Field (!startsWith [s1, s2, QMARK, s3] VERB) name rest)
      (hlc : startsLetterColon name = false)
      (hu : name = UNCNAME → ∀ x r, rest = x :: r → HeadOK (wsep (!startsWith [s1, s2, QMARK, s3] VERB)) r) :
      Shape (s1 :: s2 :: QMARK :: s3 :: name) (.verbatim name) rest
  /-- the lead-in alone, a separator following (which is not consumed) -/
  | verbatimEmpty {s1 s2 s3 x : UInt8} {t : Bytes} (h1 : anySep s1 = true) (h2 : anySep s2 = true)
      (h3 : anySep s3 = true) (hx : wsep (!startsWith [s1, s2, QMARK, s3] VERB) x = true) :
      Shape [s1, s2, QMARK, s3] (.verbatim []) (x :: t)

theorem parsePrefix_of_head_not_sep {d : UInt8} {t : Bytes} (h : anySep d = false) :
    parsePrefix (d :: t) = prefixDisk (d :: t) := by
  have hn : anySep d ≠ true := Bool.eq_false_iff.mp h
  have hv : verbatimHdr (d :: t) = none := Option.eq_none_iff_forall_ne_some.mpr fun v a => by
    obtain ⟨_, _, _, e, h1, _⟩ := verbatimHdr_some a
    cases e
    exact hn h1
  obtain ⟨a1, a2, a3⟩ := verbatim_alts_none hv
  have a4 : prefixDeviceNS (d :: t) = none := Option.eq_none_iff_forall_ne_some.mpr fun ⟨k, r⟩ a => by
    obtain ⟨_, _, _, _, e, h1, _⟩ := prefixDeviceNS_iff.mp a
    cases e
    exact hn h1
  have a5 : prefixUNC (d :: t) = none := Option.eq_none_iff_forall_ne_some.mpr fun ⟨k, r⟩ a => by
    obtain ⟨_, _, _, _, _, e, h1, _⟩ := prefixUNC_iff.mp a
    cases e
    exact hn h1
  simp only [parsePrefix, a1, a2, a3, a4, a5, Option.orElse_none]

/-- `\\?\` and nothing after it is the UNC prefix with server `?` -/
theorem parsePrefix_hdr_only {s1 s2 s3 : UInt8} (h1 : anySep s1 = true) (h2 : anySep s2 = true)
    (h3 : anySep s3 = true) : parsePrefix [s1, s2, QMARK, s3] = some (.unc [QMARK] [], []) := by
  have hv := verbatimHdr_mk h1 h2 h3 []
  have a1 := (prefixVerbatimUNC_none_iff hv).mpr (fun _ _ e => nomatch e)
  have a2 := (prefixVerbatimDisk_none_iff hv).mpr rfl
  have a3 : prefixVerbatim [s1, s2, QMARK, s3] = none := Option.eq_none_iff_forall_ne_some.mpr fun ⟨k, r⟩ a => by
    rcases (prefixVerbatim_iff hv a1 a2).mp a with ⟨name, e, hf, _⟩ | ⟨_, _, e, _⟩
    · exact hf.1 (List.append_eq_nil_iff.mp e.symm).1
    · cases e
  have a4 : prefixDeviceNS [s1, s2, QMARK, s3] = none := Option.eq_none_iff_forall_ne_some.mpr fun ⟨k, r⟩ a => by
    obtain ⟨_, _, _, _, e, _⟩ := prefixDeviceNS_iff.mp a
    exact absurd (List.cons.inj (List.cons.inj (List.cons.inj e).2).2).1 (by decide)
  have a5 : prefixUNC [s1, s2, QMARK, s3] = some (.unc [QMARK] [], []) :=
    prefixUNC_iff.mpr ⟨s1, s2, [QMARK, s3], _, _, rfl, h1, h2,
      .sep (sv := [QMARK]) ⟨List.cons_ne_nil _ _, fun _ hy => List.mem_singleton.mp hy ▸ by decide, h3⟩ trivial, rfl⟩
  simp only [parsePrefix, a1, a2, a3, a4, a5, Option.orElse_none, Option.orElse_some]

/-! ### the parser accepts exactly the grammar -/

theorem shape_of_parse {b rest : Bytes} {k : WPrefix} (h : parsePrefix b = some (k, rest)) :
    ∃ raw, b = raw ++ rest ∧ Shape raw k rest := by
  cases hv : verbatimHdr b with
  | some v =>
    obtain ⟨s1, s2, s3, rfl, h1, h2, h3⟩ := verbatimHdr_some hv
    cases v with
    | nil =>
      cases h.symm.trans (parsePrefix_hdr_only h1 h2 h3)
      exact ⟨_, rfl, .unc (w := [QMARK, s3]) h1 h2
        (.sep (sv := [QMARK]) ⟨List.cons_ne_nil _ _, fun _ hy => List.mem_singleton.mp hy ▸ by decide, h3⟩ trivial)
        (fun _ => ⟨rfl, rfl⟩) (fun e => absurd e (by decide))⟩
    | cons y t =>
      have hn := startsWith_hdr s1 s2 QMARK s3 (y :: t)
      simp only [parsePrefix, Option.orElse_eq_or, Option.or_eq_some_iff] at h
      rcases h with a1 | ⟨a1, a2 | ⟨a2, a3 | ⟨a3, _⟩⟩⟩
      · obtain ⟨x0, w, sv, sh, e, hx0, hw, rfl⟩ := (prefixVerbatimUNC_iff hv).mp a1
        rw [hn] at hx0 hw
        exact ⟨_, congrArg (s1 :: s2 :: QMARK :: s3 :: ·) e, .verbatimUNC h1 h2 h3 hx0 hw⟩
      · obtain ⟨d, e, hd, rfl⟩ := (prefixVerbatimDisk_iff hv).mp a2
        exact ⟨_, congrArg (s1 :: s2 :: QMARK :: s3 :: ·) e, .verbatimDisk h1 h2 h3 hd⟩
      · rcases (prefixVerbatim_iff hv a1 a2).mp a3 with ⟨name, e, hf, rfl⟩ | ⟨x, t', e, hx, rfl, rfl⟩
        · -- the side conditions: the two earlier alternatives rejected `name ++ rest`
          refine ⟨_, congrArg (s1 :: s2 :: QMARK :: s3 :: ·) e, .verbatim h1 h2 h3 (hn ▸ hf)
            (hf.startsLetterColon_append ▸ e ▸ (prefixVerbatimDisk_none_iff hv).mp a2) ?_⟩
          rintro rfl x r rfl
          exact hn ▸ (prefixVerbatimUNC_none_iff hv).mp a1 x r e hf.2.2
        · cases e
          exact ⟨_, rfl, .verbatimEmpty h1 h2 h3 (hn ▸ hx)⟩
      · exact absurd a3 (prefixVerbatim_ne_none hv (List.cons_ne_nil _ _) a1 a2)
  | none =>
    obtain ⟨a1, a2, a3⟩ := verbatim_alts_none hv
    simp only [parsePrefix, a1, a2, a3, Option.orElse_eq_or, Option.none_or, Option.or_eq_some_iff] at h
    rcases h with a4 | ⟨a4, a5 | ⟨_, a6⟩⟩
    · obtain ⟨s1, s2, s3, dev, rfl, h1, h2, h3, hf, rfl⟩ := prefixDeviceNS_iff.mp a4
      exact ⟨_, rfl, .deviceNS h1 h2 h3 hf⟩
    · obtain ⟨s1, s2, w, sv, sh, rfl, h1, h2, hw, rfl⟩ := prefixUNC_iff.mp a5
      refine ⟨_, rfl, .unc h1 h2 hw ?_ ?_⟩
      · -- a server `?` with a separator after it would have been a verbatim lead-in
        rintro rfl
        cases hw with
        | bare _ => exact ⟨rfl, rfl⟩
        | share hsv _ => cases hv.symm.trans (verbatimHdr_mk h1 h2 hsv.2.2 (sh ++ rest))
        | sep hsv _ => cases hv.symm.trans (verbatimHdr_mk h1 h2 hsv.2.2 rest)
      · -- a server `.` with a share after it would have been a device name
        rintro rfl
        cases hw with
        | bare _ => rfl
        | sep _ _ => rfl
        | share hsv hsh =>
          cases a4.symm.trans (prefixDeviceNS_iff.mpr ⟨s1, s2, _, sh, rfl, h1, h2, hsv.2.2, hsh, rfl⟩)
    · obtain ⟨d, rfl, hd, rfl⟩ := prefixDisk_iff.mp a6
      exact ⟨_, rfl, .disk hd⟩

theorem parse_of_shape {raw rest : Bytes} {k : WPrefix} (h : Shape raw k rest) :
    parsePrefix (raw ++ rest) = some (k, rest) := by
  cases h with
  | disk hd =>
    rename_i d
    exact (parsePrefix_of_head_not_sep (anySep_alpha hd)).trans (prefixDisk_iff.mpr ⟨d, rfl, hd, rfl⟩)
  | deviceNS h1 h2 h3 hf =>
    rename_i s1 s2 s3 dev
    -- the third byte is `.`, not `?`: there is no verbatim lead-in, so none of the three verbatim alternatives applies
    obtain ⟨a1, a2, a3⟩ := verbatim_alts_none (b := s1 :: s2 :: DOT :: s3 :: (dev ++ rest))
      (by simp [verbatimHdr_eq, DOT, QMARK])
    show parsePrefix (s1 :: s2 :: DOT :: s3 :: (dev ++ rest)) = _
    simp only [parsePrefix, a1, a2, a3, prefixDeviceNS_iff.mpr ⟨s1, s2, s3, dev, rfl, h1, h2, h3, hf, rfl⟩,
      Option.orElse_none, Option.orElse_some]
  | verbatimDisk h1 h2 h3 hd =>
    rename_i s1 s2 s3 d
    have hv := verbatimHdr_mk h1 h2 h3 (d :: COLON :: rest)
    have a1 := (prefixVerbatimUNC_none_iff hv).mpr fun _ _ e => absurd (List.cons.inj (List.cons.inj e).2).1 (by decide)
    show parsePrefix (s1 :: s2 :: QMARK :: s3 :: d :: COLON :: rest) = _
    simp only [parsePrefix, a1, (prefixVerbatimDisk_iff hv).mpr ⟨d, rfl, hd, rfl⟩, Option.orElse_none,
      Option.orElse_some]
  | verbatimUNC h1 h2 h3 hx0 hw =>
    rename_i s1 s2 s3 x0 w sv sh
    have hv := verbatimHdr_mk h1 h2 h3 (UNCNAME ++ x0 :: (w ++ rest))
    rw [← startsWith_hdr _ _ _ _ (UNCNAME ++ x0 :: (w ++ rest))] at hx0 hw
    show parsePrefix (s1 :: s2 :: QMARK :: s3 :: (UNCNAME ++ x0 :: (w ++ rest))) = _
    simp only [parsePrefix, (prefixVerbatimUNC_iff hv).mpr ⟨x0, w, sv, sh, rfl, hx0, hw, rfl⟩, Option.orElse_some]
  | verbatim h1 h2 h3 hf hlc hu =>
    rename_i s1 s2 s3 name
    have hv := verbatimHdr_mk h1 h2 h3 (name ++ rest)
    rw [← startsWith_hdr _ _ _ _ (name ++ rest)] at hf hu
    have a1 := (prefixVerbatimUNC_none_iff hv).mpr fun x0 r e hx0 => by
      obtain ⟨rfl, rfl⟩ := hf.unique (r' := x0 :: r) ⟨by decide, unc_free _, hx0⟩ e
      exact hu rfl _ _ rfl
    have a2 := (prefixVerbatimDisk_none_iff hv).mpr (hf.startsLetterColon_append.trans hlc)
    show parsePrefix (s1 :: s2 :: QMARK :: s3 :: (name ++ rest)) = _
    simp only [parsePrefix, a1, a2, (prefixVerbatim_iff hv a1 a2).mpr (.inl ⟨name, rfl, hf, rfl⟩),
      Option.orElse_none, Option.orElse_some]
  | verbatimEmpty h1 h2 h3 hx =>
    rename_i s1 s2 s3 x t
    have hv := verbatimHdr_mk h1 h2 h3 (x :: t)
    rw [← startsWith_hdr _ _ _ _ (x :: t)] at hx
    have hxa := anySep_ne (wsep_imp_anySep hx)
    -- a separator is neither `U` nor a drive letter
    have a1 := (prefixVerbatimUNC_none_iff hv).mpr fun _ _ e => by
      cases e
      exact absurd hxa.1 (by decide)
    have a2 := (prefixVerbatimDisk_none_iff hv).mpr
      (by cases t with | nil => rfl | cons _ _ => simp only [startsLetterColon, hxa.1, Bool.false_and])
    show parsePrefix (s1 :: s2 :: QMARK :: s3 :: x :: t) = _
    simp only [parsePrefix, a1, a2, (prefixVerbatim_iff hv a1 a2).mpr (.inr ⟨x, t, rfl, hx, rfl, rfl⟩),
      Option.orElse_none, Option.orElse_some]
  | unc h1 h2 hw hq hd =>
    rename_i s1 s2 w sv sh
    show parsePrefix (s1 :: s2 :: (w ++ rest)) = _
    cases hv : verbatimHdr (s1 :: s2 :: (w ++ rest)) with
    | some v =>
      -- the server is `?`, so by `hq` nothing follows its separator: the input is the lead-in alone
      obtain ⟨_, _, s3, e, _, _, h3⟩ := verbatimHdr_some hv
      obtain ⟨rfl, hw'⟩ := hw.two (by decide) h3 (List.cons.inj (List.cons.inj e).2).2
      obtain ⟨rfl, rfl⟩ := hq rfl
      obtain ⟨rfl, rfl⟩ := hw' rfl
      exact parsePrefix_hdr_only h1 h2 h3
    | none =>
      obtain ⟨a1, a2, a3⟩ := verbatim_alts_none hv
      have a4 : prefixDeviceNS (s1 :: s2 :: (w ++ rest)) = none :=
        Option.eq_none_iff_forall_ne_some.mpr fun ⟨k', r'⟩ a => by
          -- the server is `.`, so by `hd` there is no share, but a device name follows the separator
          obtain ⟨_, _, s3, dev, e, _, _, h3, hf, _⟩ := prefixDeviceNS_iff.mp a
          obtain ⟨rfl, hw'⟩ := hw.two (by decide) h3 (List.cons.inj (List.cons.inj e).2).2
          obtain ⟨_, rfl⟩ := hw' (hd rfl)
          exact hf.not_headOK hw.headOK
      simp only [parsePrefix, a1, a2, a3, a4, prefixUNC_iff.mpr ⟨s1, s2, w, sv, sh, rfl, h1, h2, hw, rfl⟩,
        Option.orElse_none, Option.orElse_some]

theorem parsePrefix_iff {b rest : Bytes} {k : WPrefix} :
    parsePrefix b = some (k, rest) ↔ ∃ raw, b = raw ++ rest ∧ Shape raw k rest :=
  ⟨shape_of_parse, fun ⟨_, e, h⟩ => e ▸ parse_of_shape h⟩

/-! ### read off the grammar -/

/-- the separator set of a path is that of its prefix text, whatever follows -/
theorem Shape.startsWith_append {raw rest : Bytes} {k : WPrefix} (h : Shape raw k rest) :
    startsWith (raw ++ rest) VERB = startsWith raw VERB := by
  cases h with
  | disk hd => exact (startsWith_alpha hd _).trans (startsWith_alpha hd _).symm
  | unc _ _ hw _ _ =>
    -- the bare server is followed by nothing; every other text has four bytes
    obtain ⟨t, rfl, hne, _, ht⟩ := hw.raw
    cases t with
    | nil => rw [ht rfl, List.append_nil]
    | cons x t =>
      refine startsWith_append_long _ _ ?_
      have := List.length_pos_iff.mpr hne
      simp only [List.length_cons, List.length_append]
      omega
  | deviceNS _ _ _ _ => exact startsWith_append_long _ _ (Nat.le_add_left 4 _)
  | verbatimDisk _ _ _ _ => exact startsWith_append_long _ _ (Nat.le_add_left 4 _)
  | verbatimUNC _ _ _ _ _ => exact startsWith_append_long _ _ (Nat.le_add_left 4 _)
  | verbatim _ _ _ _ _ _ => exact startsWith_append_long _ _ (Nat.le_add_left 4 _)
  | verbatimEmpty _ _ _ _ => exact startsWith_append_long _ _ (Nat.le_add_left 4 _)

theorem Shape.normOf_unc {raw sv sh rest : Bytes} (h : Shape raw (.unc sv sh) rest) (hq : sv ≠ [QMARK]) :
    normOf raw = true := by
  cases hv : startsWith raw VERB with
  | false => simp only [normOf, hv, Bool.not_false]
  | true =>
    rw [← h.startsWith_append] at hv
    obtain ⟨t, e⟩ := startsWith_VERB_iff.mp hv
    cases h with
    | unc _ _ hw _ _ => exact absurd (hw.two (by decide) (by decide) (List.cons.inj (List.cons.inj e).2).2).1 hq

theorem Shape.start {raw rest : Bytes} {k : WPrefix} (h : Shape raw k rest) :
    (∃ d, raw = [d, COLON] ∧ isAsciiAlpha d = true) ∨
    ∃ s1 s2 c t, raw = s1 :: s2 :: c :: t ∧ anySep s1 = true ∧ anySep s2 = true ∧ anySep c = false := by
  cases h with
  | disk hd => exact .inl ⟨_, rfl, hd⟩
  | unc h1 h2 hw hq hd =>
    rename_i sv _
    obtain ⟨t, rfl, hne, hfree, _⟩ := hw.raw
    cases sv with
    | nil => exact absurd rfl hne
    | cons c sv' => exact .inr ⟨_, _, c, sv' ++ t, rfl, h1, h2, hfree c (List.mem_cons_self ..)⟩
  | deviceNS h1 h2 _ _ => exact .inr ⟨_, _, _, _, rfl, h1, h2, by decide⟩
  | verbatimDisk h1 h2 _ _ => exact .inr ⟨_, _, _, _, rfl, h1, h2, by decide⟩
  | verbatimUNC h1 h2 _ _ _ => exact .inr ⟨_, _, _, _, rfl, h1, h2, by decide⟩
  | verbatim h1 h2 _ _ _ _ => exact .inr ⟨_, _, _, _, rfl, h1, h2, by decide⟩
  | verbatimEmpty h1 h2 _ _ => exact .inr ⟨_, _, _, _, rfl, h1, h2, by decide⟩

theorem Shape.cut {raw rest : Bytes} {k : WPrefix} (h : Shape raw k rest) :
    HeadOK anySep rest ∨ ∃ a, raw = a ++ [COLON] := by
  cases h with
  | disk _ => exact .inr ⟨[_], rfl⟩
  | verbatimDisk _ _ _ _ => exact .inr ⟨[_, _, _, _, _], rfl⟩
  | unc _ _ hw _ _ => exact .inl hw.headOK
  | deviceNS _ _ _ hf => exact .inl hf.2.2
  | verbatimUNC _ _ _ _ hw => exact .inl (headOK_anySep hw.headOK)
  | verbatim _ _ _ hf _ _ => exact .inl (headOK_anySep hf.2.2)
  | verbatimEmpty _ _ _ hx => exact .inl (wsep_imp_anySep hx)

theorem parsePrefix_ne_none {s1 s2 c : UInt8} {t : Bytes} (h1 : anySep s1 = true) (h2 : anySep s2 = true)
    (hc : anySep c = false) : parsePrefix (s1 :: s2 :: c :: t) ≠ none := by
  -- if no earlier alternative accepts, the UNC one does
  simp only [parsePrefix, Option.orElse_eq_or, ne_eq, Option.or_eq_none_iff, not_and]
  intro _ _ _ _ h5
  simp only [prefixUNC, h1, h2, Bool.and_self, if_true] at h5
  cases hs : serverShare true (c :: t) with
  | none => exact absurd (serverShare_none_iff.mp hs) (Bool.eq_false_iff.mp hc)
  | some _ => simp [hs] at h5

theorem normOf_of_no_prefix {b : Bytes} (h : parsePrefix b = none) : normOf b = true := by
  cases hv : startsWith b VERB with
  | false => simp only [normOf, hv, Bool.not_false]
  | true =>
    obtain ⟨t, rfl⟩ := startsWith_VERB_iff.mp hv
    exact absurd h (parsePrefix_ne_none (by decide) (by decide) (by decide))

/-! ### the prefix component -/

theorem parsePrefixComp_iff {b rest : Bytes} {p : PrefixComp} :
    parsePrefixComp b = some (p, rest) ↔ b = p.raw ++ rest ∧ Shape p.raw p.kind rest := by
  unfold parsePrefixComp
  constructor
  · intro h
    cases hp : parsePrefix b with
    | none => simp [hp] at h
    | some x =>
      obtain ⟨raw, rfl, hs⟩ := parsePrefix_iff.mp hp
      simp only [hp, Option.some.injEq, Prod.mk.injEq] at h
      obtain ⟨rfl, rfl⟩ := h
      simpa using hs
  · rintro ⟨rfl, hs⟩
    simp [parsePrefix_iff.mpr ⟨_, rfl, hs⟩]

theorem normOf_raw {b rest : Bytes} {p : PrefixComp} (h : parsePrefixComp b = some (p, rest)) :
    normOf p.raw = normOf b := by
  obtain ⟨rfl, hs⟩ := parsePrefixComp_iff.mp h
  exact congrArg (!·) hs.startsWith_append.symm

/-- whatever follows a prefix text, some prefix is found again (not always the same one: `\\server` + `\x`) -/
theorem parsePrefix_isSome_of_raw {b rest : Bytes} {p : PrefixComp} (hp : parsePrefixComp b = some (p, rest))
    (rest' : Bytes) : (parsePrefix (p.raw ++ rest')).isSome = true := by
  rcases (parsePrefixComp_iff.mp hp).2.start with ⟨d, e, hd⟩ | ⟨s1, s2, c, t, e, h1, h2, hc⟩
  · rw [e, parse_of_shape (.disk hd)]
    rfl
  · rw [e]
    exact Option.isSome_iff_ne_none.mpr (parsePrefix_ne_none h1 h2 hc)

theorem parsePrefixComp_of {raw rest : Bytes} {k : WPrefix}
    (h : parsePrefix (raw ++ rest) = some (k, rest)) :
    parsePrefixComp (raw ++ rest) = some (⟨raw, k⟩, rest) := by
  simp [parsePrefixComp, h]

theorem parsePrefix_of_comp {b rest : Bytes} {p : PrefixComp}
    (h : parsePrefixComp b = some (p, rest)) : parsePrefix b = some (p.kind, rest) :=
  have ⟨e, hs⟩ := parsePrefixComp_iff.mp h
  parsePrefix_iff.mpr ⟨_, e, hs⟩

end TP.Win

namespace TP

/-- what `parsePrefix` returns is a suffix of its input -/
def IsSuffixOf (r b : Bytes) : Prop := ∃ p, b = p ++ r

theorem IsSuffixOf.cons {r b : Bytes} (x : UInt8) (h : IsSuffixOf r b) : IsSuffixOf r (x :: b) := by
  obtain ⟨p, hp⟩ := h
  exact ⟨x :: p, by rw [hp]; rfl⟩

theorem parsePrefix_suffix {b r : Bytes} {k : WPrefix} (h : parsePrefix b = some (k, r)) :
    IsSuffixOf r b :=
  have ⟨raw, e, _⟩ := Win.parsePrefix_iff.mp h
  ⟨raw, e⟩

theorem parsePrefixComp_raw {b rest : Bytes} {p : PrefixComp} (h : parsePrefixComp b = some (p, rest)) :
    p.raw ++ rest = b :=
  (Win.parsePrefixComp_iff.mp h).1.symm

theorem parsePrefix_none_of_comp {b : Bytes} (h : parsePrefixComp b = none) : parsePrefix b = none := by
  unfold parsePrefixComp at h
  cases hp : parsePrefix b with
  | none => rfl
  | some x =>
    rw [hp] at h
    cases h

end TP
