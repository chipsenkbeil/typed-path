/-
Lemmas/Toks.lean — `toks`, `untoks` and well-formed token lists, independent of the parser.

`toks` one byte at a time: a separator is a token of its own, any other byte joins the segment that
follows it or starts one (`toks_cons_sep`, `toks_cons_not_sep`).
`untoks` undoes `toks`; `toks` undoes `untoks` on well-formed lists; well-formedness is local
(`WFToks_append`): two well-formed pieces may be put side by side unless a segment would touch a
segment.  The facts about splitting, truncating and extending a token list all follow from that.
Every token of a well-formed list has a byte, so there are no more tokens than bytes (`length_le_untoks`).
-/
import TypedPathVerif.Model.Basic

namespace TP

/-- the list does not start with a segment token -/
def notSegHead : List Tok → Prop
  | .seg _ :: _ => False
  | _ => True

/-- a token list as produced by `toks`: separators are separator bytes, segments are
non-empty, separator-free and never adjacent -/
def WFToks (isSep : UInt8 → Bool) : List Tok → Prop
  | [] => True
  | .sep x :: r => isSep x = true ∧ WFToks isSep r
  | .seg s :: r => s ≠ [] ∧ (∀ y ∈ s, isSep y = false) ∧ notSegHead r ∧ WFToks isSep r

/-- the bytes of a leading segment token (none: empty) and the tokens after it -/
def firstSeg : List Tok → Bytes
  | .seg s :: _ => s
  | _ => []

def dropFirstSeg : List Tok → List Tok
  | .seg _ :: r => r
  | ts => ts

theorem firstSeg_append_untoks (ts : List Tok) : firstSeg ts ++ untoks (dropFirstSeg ts) = untoks ts := by
  cases ts with
  | nil => rfl
  | cons t r => cases t <;> rfl

theorem WFToks.split_firstSeg {f : UInt8 → Bool} {ts : List Tok} (h : WFToks f ts) :
    (∀ y ∈ firstSeg ts, f y = false) ∧ notSegHead (dropFirstSeg ts) ∧ WFToks f (dropFirstSeg ts) := by
  cases ts with
  | nil => exact ⟨nofun, trivial, trivial⟩
  | cons t r =>
    cases t with
    | sep x => exact ⟨nofun, trivial, h⟩
    | seg s => exact ⟨h.2.1, h.2.2.1, h.2.2.2⟩

theorem toks_cons_sep {f : UInt8 → Bool} {x : UInt8} (b : Bytes) (hx : f x = true) :
    toks f (x :: b) = .sep x :: toks f b := by
  simp [toks, hx]

theorem toks_cons_not_sep {f : UInt8 → Bool} {x : UInt8} (b : Bytes) (hx : f x = false) :
    toks f (x :: b) = .seg (x :: firstSeg (toks f b)) :: dropFirstSeg (toks f b) := by
  cases hts : toks f b with
  | nil => simp [toks, hx, hts, firstSeg, dropFirstSeg]
  | cons t r => cases t <;> simp [toks, hx, hts, firstSeg, dropFirstSeg]

theorem untoks_append (a b : List Tok) : untoks (a ++ b) = untoks a ++ untoks b := by
  induction a with
  | nil => rfl
  | cons t a ih => simp [untoks, ih]

theorem mem_untoks {ts : List Tok} {y : UInt8} (h : y ∈ untoks ts) : ∃ t ∈ ts, y ∈ t.bytes := by
  induction ts with
  | nil => cases h
  | cons t r ih =>
    rcases List.mem_append.mp h with h | h
    · exact ⟨t, List.mem_cons_self .., h⟩
    · obtain ⟨t', ht', hy⟩ := ih h
      exact ⟨t', List.mem_cons_of_mem _ ht', hy⟩

theorem untoks_toks (f : UInt8 → Bool) (b : Bytes) : untoks (toks f b) = b := by
  induction b with
  | nil => rfl
  | cons x xs ih =>
    by_cases hx : f x = true
    · rw [toks_cons_sep xs hx, untoks, ih]
      rfl
    · rw [toks_cons_not_sep xs (Bool.eq_false_iff.mpr hx), untoks, Tok.bytes, List.cons_append,
        firstSeg_append_untoks, ih]

theorem toks_eq_nil_iff (f : UInt8 → Bool) (b : Bytes) : toks f b = [] ↔ b = [] := by
  constructor
  · intro h
    have := untoks_toks f b
    rw [h] at this
    exact this.symm
  · intro h; subst h; rfl

theorem toks_congr (f g : UInt8 → Bool) : ∀ (b : Bytes), (∀ y ∈ b, f y = g y) → toks f b = toks g b
  | [], _ => rfl
  | x :: xs, h => by
    have hx := h x (List.mem_cons_self ..)
    have := toks_congr f g xs (fun y hy => h y (List.mem_cons_of_mem _ hy))
    simp only [toks, hx, this]

theorem toks_head_sep_iff {f : UInt8 → Bool} {b : Bytes} :
    (∃ y r, toks f b = .sep y :: r) ↔ ∃ x t, b = x :: t ∧ f x = true := by
  cases b with
  | nil => exact ⟨fun ⟨_, _, h⟩ => (nomatch h), fun ⟨_, _, h, _⟩ => (nomatch h)⟩
  | cons x t =>
    cases hx : f x with
    | true => exact ⟨fun _ => ⟨x, t, rfl, hx⟩, fun _ => ⟨x, _, toks_cons_sep t hx⟩⟩
    | false =>
      rw [toks_cons_not_sep t hx]
      refine ⟨fun ⟨_, _, h⟩ => (nomatch h), fun ⟨_, _, h, h'⟩ => ?_⟩
      cases h
      rw [hx] at h'
      cases h'

theorem WFToks_toks (f : UInt8 → Bool) (b : Bytes) : WFToks f (toks f b) := by
  induction b with
  | nil => trivial
  | cons x xs ih =>
    by_cases hx : f x = true
    · rw [toks_cons_sep xs hx]
      exact ⟨hx, ih⟩
    · have hx' : f x = false := Bool.eq_false_iff.mpr hx
      obtain ⟨h1, h2, h3⟩ := ih.split_firstSeg
      rw [toks_cons_not_sep xs hx']
      exact ⟨List.cons_ne_nil _ _, List.forall_mem_cons.mpr ⟨hx', h1⟩, h2, h3⟩

theorem tok_bytes_ne_nil {f : UInt8 → Bool} {t : Tok} {r : List Tok} (hw : WFToks f (t :: r)) : t.bytes ≠ [] := by
  cases t with
  | sep x => simp [Tok.bytes]
  | seg s => exact hw.1

theorem length_le_untoks {f : UInt8 → Bool} : ∀ {ts : List Tok}, WFToks f ts → ts.length ≤ (untoks ts).length
  | [], _ => Nat.le_refl _
  | .sep x :: r, h => by
    have := length_le_untoks h.2
    simp [untoks, Tok.bytes]
    omega
  | .seg s :: r, h => by
    have := length_le_untoks h.2.2.2
    have hs : 0 < s.length := List.length_pos_iff.mpr h.1
    simp [untoks, Tok.bytes]
    omega

theorem toks_length_le (f : UInt8 → Bool) (b : Bytes) : (toks f b).length ≤ b.length := by
  have := length_le_untoks (WFToks_toks f b)
  rwa [untoks_toks] at this

theorem untoks_eq_nil {f : UInt8 → Bool} {ts : List Tok} (hw : WFToks f ts)
    (h : untoks ts = []) : ts = [] := by
  have := length_le_untoks hw
  rw [h] at this
  exact List.eq_nil_of_length_eq_zero (Nat.le_zero.mp this)

/-! ### well-formedness is local -/

/-- the list does not end with a segment token -/
def notSegLast (ts : List Tok) : Prop := ∀ s, ts.getLast? ≠ some (.seg s)

/-- two pieces may be put side by side unless a segment would touch a segment -/
def Joinable (a b : List Tok) : Prop := notSegLast a ∨ notSegHead b

theorem joinable_cons {t t' : Tok} {a b : List Tok} :
    Joinable (t :: t' :: a) b ↔ Joinable (t' :: a) b := by
  simp [Joinable, notSegLast, List.getLast?_cons_cons]

theorem WFToks_append {f : UInt8 → Bool} {a b : List Tok} :
    WFToks f (a ++ b) ↔ WFToks f a ∧ WFToks f b ∧ Joinable a b := by
  induction a with
  | nil => simp [WFToks, Joinable, notSegLast]
  | cons t a ih =>
    cases a with
    | nil =>
      cases t with
      | sep x => simp [WFToks, Joinable, notSegLast]
      | seg s =>
        have hj : Joinable [Tok.seg s] b ↔ notSegHead b := by simp [Joinable, notSegLast]
        simp only [List.cons_append, List.nil_append, WFToks, hj]
        constructor
        · rintro ⟨h1, h2, h3, h4⟩
          exact ⟨⟨h1, h2, trivial, trivial⟩, h4, h3⟩
        · rintro ⟨⟨h1, h2, _, _⟩, h4, h3⟩
          exact ⟨h1, h2, h3, h4⟩
    | cons t' a =>
      rw [joinable_cons]
      cases t with
      | sep x =>
        simp only [List.cons_append, WFToks] at ih ⊢
        rw [ih]
        simp only [and_assoc]
      | seg s =>
        simp only [List.cons_append, WFToks] at ih ⊢
        rw [ih]
        have : notSegHead (t' :: (a ++ b)) ↔ notSegHead (t' :: a) := by cases t' <;> rfl
        rw [this]
        simp only [and_assoc]

theorem WFToks_prefix {f : UInt8 → Bool} (p : List Tok) {r : List Tok}
    (h : WFToks f (p ++ r)) : WFToks f p :=
  (WFToks_append.mp h).1

theorem WFToks_suffix {f : UInt8 → Bool} (p : List Tok) {r : List Tok}
    (h : WFToks f (p ++ r)) : WFToks f r :=
  (WFToks_append.mp h).2.1

/-- a token of a well-formed list heads a well-formed list, so it is itself well-formed -/
theorem WFToks.sep_mem {f : UInt8 → Bool} {ts : List Tok} (hw : WFToks f ts) (x : UInt8)
    (h : Tok.sep x ∈ ts) : f x = true := by
  obtain ⟨a, b, rfl⟩ := List.append_of_mem h
  exact (WFToks_suffix a hw).1

theorem WFToks.seg_mem {f : UInt8 → Bool} {ts : List Tok} (hw : WFToks f ts) (s : Bytes)
    (h : Tok.seg s ∈ ts) : s ≠ [] ∧ ∀ y ∈ s, f y = false := by
  obtain ⟨a, b, rfl⟩ := List.append_of_mem h
  have hs := WFToks_suffix a hw
  exact ⟨hs.1, hs.2.1⟩

theorem WFToks_replace_last {f : UInt8 → Bool} (r : List Tok) {s s' : Bytes}
    (hw : WFToks f (r ++ [.seg s])) (h1 : s' ≠ []) (h2 : ∀ y ∈ s', f y = false) :
    WFToks f (r ++ [.seg s']) := by
  obtain ⟨hr, _, hj⟩ := WFToks_append.mp hw
  exact WFToks_append.mpr
    ⟨hr, ⟨h1, h2, trivial, trivial⟩, hj.imp id (fun h => absurd h (by simp [notSegHead]))⟩

/-! ### `toks` undoes `untoks`, and distributes over a clean seam -/

theorem toks_append_seg {f : UInt8 → Bool} {s rest : Bytes} {r : List Tok} (hs : s ≠ [])
    (hns : ∀ y ∈ s, f y = false) (hr : toks f rest = r) (hnseg : notSegHead r) :
    toks f (s ++ rest) = .seg s :: r := by
  induction s with
  | nil => exact absurd rfl hs
  | cons y s' ih =>
    have hy : f y = false := hns y (by simp)
    simp only [List.cons_append, toks, hy, Bool.false_eq_true, if_false]
    cases s' with
    | nil =>
      simp only [List.nil_append, hr]
      cases r with
      | nil => rfl
      | cons t r' =>
        cases t with
        | sep x => rfl
        | seg s'' => exact absurd hnseg (by simp [notSegHead])
    | cons z s'' =>
      rw [ih (by simp) (fun w hw => hns w (by simp [hw]))]

theorem toks_untoks {f : UInt8 → Bool} : ∀ (ts : List Tok), WFToks f ts → toks f (untoks ts) = ts
  | [], _ => rfl
  | .sep x :: r, h => by
    simp only [untoks, Tok.bytes, List.singleton_append, toks, h.1, if_true]
    rw [toks_untoks r h.2]
  | .seg s :: r, h => by
    obtain ⟨h1, h2, h3, h4⟩ := h
    simp only [untoks, Tok.bytes]
    exact toks_append_seg h1 h2 (toks_untoks r h4) h3

theorem toks_untoks_append_seg {f : UInt8 → Bool} (r : List Tok) (s : Bytes)
    (hw : WFToks f (r ++ [.seg s])) : toks f (untoks r ++ s) = r ++ [.seg s] := by
  simpa [untoks_append, untoks, Tok.bytes] using toks_untoks _ hw

theorem toks_append (f : UInt8 → Bool) (a b : Bytes) (h : Joinable (toks f a) (toks f b)) :
    toks f (a ++ b) = toks f a ++ toks f b := by
  have := toks_untoks _ (WFToks_append.mpr ⟨WFToks_toks f a, WFToks_toks f b, h⟩)
  rwa [untoks_append, untoks_toks, untoks_toks] at this

theorem toks_piece {f : UInt8 → Bool} {b : Bytes} {ts' x : List Tok} (hts : toks f b = ts' ++ x) :
    b = untoks ts' ++ untoks x ∧ toks f (untoks ts') = ts' :=
  ⟨by rw [← untoks_append, ← hts, untoks_toks], toks_untoks ts' (WFToks_prefix ts' (hts ▸ WFToks_toks f b))⟩

theorem toks_append_sep (f : UInt8 → Bool) (a b : Bytes) (x : UInt8) (hx : f x = true) :
    toks f (a ++ x :: b) = toks f a ++ .sep x :: toks f b := by
  have h := toks_cons_sep b hx
  rw [toks_append f a _ (.inr (h ▸ trivial)), h]

theorem toks_append_sep_end (f : UInt8 → Bool) (a : Bytes) (x : UInt8) (hx : f x = true) :
    toks f (a ++ [x]) = toks f a ++ [.sep x] :=
  toks_append_sep f a [] x hx

/-- a seam inside a segment: tokenising the two halves separately cuts that segment in two -/
theorem toks_append_merge {f : UInt8 → Bool} {a b : Bytes} {r z : List Tok} {s1 s2 : Bytes}
    (ha : toks f a = r ++ [.seg s1]) (hb : toks f b = .seg s2 :: z) :
    toks f (a ++ b) = r ++ .seg (s1 ++ s2) :: z := by
  have wa := ha ▸ WFToks_toks f a
  have wb := hb ▸ WFToks_toks f b
  obtain ⟨wr, ⟨a1, a2, _⟩, jr⟩ := WFToks_append.mp wa
  obtain ⟨_, b2, b3, b4⟩ := wb
  have hw : WFToks f (r ++ .seg (s1 ++ s2) :: z) :=
    WFToks_append.mpr ⟨wr,
      ⟨by simp [a1], fun y hy => (List.mem_append.mp hy).elim (a2 y) (b2 y), b3, b4⟩,
      jr.imp id (fun h => absurd h (by simp [notSegHead]))⟩
  have hu : untoks (r ++ .seg (s1 ++ s2) :: z) = a ++ b := by
    rw [← untoks_toks f a, ← untoks_toks f b, ha, hb]
    simp [untoks_append, untoks, Tok.bytes]
  rw [← hu, toks_untoks _ hw]

end TP
