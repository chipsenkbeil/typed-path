/-
Lemmas/IterAfter.lean — what `helpers::iter_after` returns, for any property of parser states that
front steps keep (`iterAfter_spec`; `strip_reach` is `strip_prefix` read through it with `Reach` for the
property); and when it succeeds: exactly when the texts asked for lead (from the back: end) the texts
of the state's components.  At a fresh state that is what `starts_with` / `ends_with` / `strip_prefix` test on
every input of both encodings (`C10b.starts_with_iff_texts`, `ends_with_iff_texts`, `strip_iff_starts`).
-/
import TypedPathVerif.Lemmas.EncNew

namespace TP

/-- The state that remains has the property; the components walked over have the texts of `ys`; once a
step was made no prefix is pending. -/
theorem iterAfter_spec (e : Enc) {P : PState → Prop}
    (hP : ∀ {s s' : PState} {c : Comp}, s.nextFront = some (c, s') → P s → P s') :
    ∀ (ys : List Comp) (s s' : PState), P s → iterAfter e s ys = some s' →
      P s' ∧ (ys ≠ [] ∨ s.pre = none → s'.pre = none) ∧
      ∃ xs, xs.map (Comp.bytes e) = ys.map (Comp.bytes e) ∧ s.comps = xs ++ s'.comps
  | [], s, s', hs, h => by
    cases h
    exact ⟨hs, fun h => h.resolve_left (fun h0 => h0 rfl), [], rfl, rfl⟩
  | y :: ys, s, s', hs, h => by
    simp only [iterAfter] at h
    cases hf : s.nextFront with
    | none => simp [hf] at h
    | some r =>
      obtain ⟨x, s1⟩ := r
      simp only [hf] at h
      split at h
      · rename_i hxy
        obtain ⟨hr', hpre, xs, hmap, hxs⟩ := iterAfter_spec e hP ys s1 s' (hP hf hs) h
        exact ⟨hr', fun _ => hpre (.inr (nextFront_toks hf).2.1), x :: xs, by simp [hmap, hxy],
          by rw [front_comps hf, hxs]; rfl⟩
      · cases h

theorem strip_reach {e : Enc} {f : UInt8 → Bool} {k : Bool} {p q r : Bytes} (hF : Reach f k (e.new p))
    (h : stripPrefix e p q = some r) :
    ∃ s' xs, Reach f k s' ∧ (comps e q ≠ [] ∨ (e.new p).pre = none → s'.pre = none) ∧ s'.remaining = r ∧
      xs.map (Comp.bytes e) = (comps e q).map (Comp.bytes e) ∧ comps e p = xs ++ s'.comps := by
  obtain ⟨s', hia, hr⟩ := Option.map_eq_some_iff.mp h
  obtain ⟨hF', hpre, xs, hmap, hxs⟩ := iterAfter_spec e (fun h hs => Reach.front hs h) _ _ _ hF hia
  exact ⟨s', xs, hF', hpre, hr, hmap, hxs⟩

theorem stripPrefix_isSome (e : Enc) (p q : Bytes) : (stripPrefix e p q).isSome = startsWithP e p q :=
  Option.isSome_map

theorem stripPrefix_of_starts {e : Enc} {p q : Bytes} (h : startsWithP e p q = true) :
    ∃ r, stripPrefix e p q = some r :=
  Option.isSome_iff_exists.mp ((stripPrefix_isSome e p q).trans h)

/-- one comparison of `iter_after`: it goes on exactly when the two texts agree -/
theorem ite_isSome_iff_cons_prefix {α : Type} {a b : Bytes} {o : Option α} {l1 l2 : List Bytes}
    (h : o.isSome = true ↔ l1 <+: l2) :
    (if a = b then o else none).isSome = true ↔ b :: l1 <+: a :: l2 := by
  rw [List.cons_prefix_cons]
  by_cases hab : a = b
  · rw [if_pos hab, h]
    exact ⟨fun h => ⟨hab.symm, h⟩, fun h => h.2⟩
  · rw [if_neg hab]
    exact ⟨fun h => (nomatch h), fun h => absurd h.1.symm hab⟩

theorem iterAfter_isSome_iff (e : Enc) : ∀ (ys : List Comp) (s : PState),
    (iterAfter e s ys).isSome = true ↔ ys.map (Comp.bytes e) <+: s.comps.map (Comp.bytes e)
  | [], s => by simp [iterAfter]
  | y :: ys, s => by
    simp only [iterAfter]
    cases hf : s.nextFront with
    | none =>
      rw [comps_of_front_none hf]
      simp
    | some r =>
      rw [front_comps hf]
      exact ite_isSome_iff_cons_prefix (iterAfter_isSome_iff e ys r.2)

theorem iterAfterBack_isSome_iff (e : Enc) : ∀ (ys : List Comp) (s : PState), s.Inv →
    ((iterAfterBack e s ys).isSome = true ↔ ys.map (Comp.bytes e) <+: s.comps.reverse.map (Comp.bytes e))
  | [], s, _ => by simp [iterAfterBack]
  | y :: ys, s, hi => by
    simp only [iterAfterBack]
    cases hb : s.nextBack with
    | none =>
      rw [comps_of_front_none ((front_none_iff_back_none hi).mpr hb)]
      simp
    | some r =>
      obtain ⟨hc, hi'⟩ := back_comps hi hb
      rw [hc, List.reverse_append]
      exact ite_isSome_iff_cons_prefix (iterAfterBack_isSome_iff e ys r.2 hi')

end TP

namespace TP.C10b

/-- `starts_with` compares component texts -/
theorem starts_with_iff_texts (e : Enc) (p q : Bytes) :
    startsWithP e p q = true ↔ (comps e q).map (Comp.bytes e) <+: (comps e p).map (Comp.bytes e) := by
  unfold startsWithP
  exact iterAfter_isSome_iff e _ _

/-- `ends_with` compares component texts -/
theorem ends_with_iff_texts (e : Enc) (p q : Bytes) :
    endsWithP e p q = true ↔ (comps e q).map (Comp.bytes e) <:+ (comps e p).map (Comp.bytes e) := by
  unfold endsWithP
  rw [iterAfterBack_isSome_iff e _ _ (Enc.new_inv e p), compsBack_eq_reverse _ (Enc.new_inv e q)]
  rw [show (Enc.new e p).comps = comps e p from rfl, show (Enc.new e q).comps = comps e q from rfl,
    List.map_reverse, List.map_reverse, List.reverse_prefix]

/-- `strip_prefix` succeeds exactly when `starts_with` holds -/
theorem strip_iff_starts (e : Enc) (p q : Bytes) :
    (stripPrefix e p q).isSome = startsWithP e p q :=
  stripPrefix_isSome e p q

end TP.C10b
