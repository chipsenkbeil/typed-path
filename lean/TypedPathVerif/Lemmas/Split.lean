/-
Lemmas/Split.lean — the token view and the "split on separators" view of a byte string agree, for
every separator set and either `.` rule: the closed form `compsT` of the tokens is
`WinGrammar.bodySpec` of the bytes.
-/
import TypedPathVerif.Lemmas.Laws
import TypedPathVerif.Lemmas.Toks
import TypedPathVerif.Spec.WinGrammar

namespace TP.C02

open WinGrammar StdSpec

theorem body_cons_seg_k (k : Bool) (s : Bytes) (r : List Tok) (hs : s ≠ []) :
    body k (.seg s :: r) = (interiorK k s).toList ++ body k r := by
  by_cases hc : s = CUR
  · subst hc
    cases k with
    | false =>
      rw [body_cons_junk r (by decide)]
      simp [interiorK, CUR]
    | true =>
      rw [body_cons_seg r (by decide)]
      simp [interiorK, segComp, CUR, PAR]
  · rw [body_cons_seg r (junk_seg_of_ne hc)]
    simp [interiorK, hs, hc, segComp, classify]

theorem body_first_k {f : UInt8 → Bool} (k : Bool) (ts : List Tok) (hw : WFToks f ts) :
    body k ts = (interiorK k (firstSeg ts)).toList ++ body k (dropFirstSeg ts) := by
  cases ts with
  | nil => simp [firstSeg, dropFirstSeg, interiorK]
  | cons t r =>
    cases t with
    | sep b => simp [firstSeg, dropFirstSeg, interiorK]
    | seg s =>
      simp only [firstSeg, dropFirstSeg]
      exact body_cons_seg_k k s r hw.1

/-- the split view in terms of the token view, for any separator set and `.` rule.  The induction
carries both halves: the first piece of the split is `firstSeg` of the tokens (a non-separator byte
extends it and leaves the rest alone), and the later pieces, filtered, are the `body` of
`dropFirstSeg` (a separator byte makes the old first piece the head of the later ones). -/
theorem splitOn_toks_k (isSep : UInt8 → Bool) (k : Bool) (b : Bytes) :
    ∃ rest, splitOn isSep b = firstSeg (toks isSep b) :: rest ∧
      rest.filterMap (interiorK k) = body k (dropFirstSeg (toks isSep b)) := by
  induction b with
  | nil => exact ⟨[], by simp [splitOn, toks, firstSeg], by simp [toks, dropFirstSeg]⟩
  | cons x xs ih =>
    obtain ⟨rest, h1, h2⟩ := ih
    by_cases hx : isSep x = true
    · refine ⟨firstSeg (toks isSep xs) :: rest, by simp [splitOn, toks, hx, firstSeg, h1], ?_⟩
      simp only [toks, hx, if_true, dropFirstSeg, List.filterMap_cons]
      rw [body_cons_junk _ (by rfl), body_first_k k _ (WFToks_toks isSep xs), ← h2]
      cases interiorK k (firstSeg (toks isSep xs)) <;> simp
    · have hx' : isSep x = false := Bool.eq_false_iff.mpr hx
      rw [toks_cons_not_sep xs hx']
      exact ⟨rest, by simp [splitOn, hx', h1, firstSeg], h2⟩

theorem compsT_eq_bodySpec (isSep : UInt8 → Bool) (k : Bool) (rest : Bytes) :
    compsT k true (toks isSep rest) = bodySpec isSep k rest := by
  obtain ⟨more, h1, h2⟩ := splitOn_toks_k isSep k rest
  unfold bodySpec
  rw [h1]
  simp only
  cases rest with
  | nil => simp [toks, firstSeg, StdSpec.first] at *; simpa [toks, dropFirstSeg] using h2
  | cons x xs =>
    by_cases hx : isSep x = true
    · simp only [toks, hx, if_true, firstSeg, dropFirstSeg] at h2 ⊢
      rw [compsT_true_cons, h2, body_cons_junk _ (by rfl)]
      simp [headComp, StdSpec.first]
    · have hxf : isSep x = false := Bool.eq_false_iff.mpr hx
      rw [toks_cons_not_sep xs hxf] at h2 ⊢
      generalize firstSeg (toks isSep xs) = s at h2 ⊢
      generalize dropFirstSeg (toks isSep xs) = r at h2 ⊢
      simp only [firstSeg, dropFirstSeg] at h2 ⊢
      rw [compsT_true_cons, h2]
      simp only [hxf, Bool.false_eq_true, if_false, List.nil_append, headComp, StdSpec.first, List.cons_ne_nil]
      by_cases hc : x :: s = CUR
      · simp [hc, segComp, CUR, PAR]
      · simp [hc, segComp, StdSpec.classify]

end TP.C02
