/-
Lemmas/WinReparse.lean — law (R) for Windows: after a back step that returns a name / `.` / `..`
from a fresh Windows parser, re-parsing the remaining bytes from scratch gives the parser state
that remains — for every path whose prefix is stable (`Win.Stable`, all complete prefixes) and
for every path that does not start like a prefix (`pfxStart = false`).  Hence the parent's
components are the path's without the last one.
-/
import TypedPathVerif.Lemmas.WinStable
import TypedPathVerif.Lemmas.PfxStart

namespace TP.Win

theorem new_of_stable {p : PrefixComp} (hs : Stable p) (rest : Bytes) (hok : RestOK p rest) :
    Enc.new .windows (p.raw ++ rest) =
      { pre := some p, toks := toks (wsep (normOf p.raw)) rest, atBeg := true, k := !normOf p.raw } :=
  new_of_parse (hs rest hok).1

theorem comps_of_stable {p : PrefixComp} (hs : Stable p) (rest : Bytes) (hok : RestOK p rest) :
    comps .windows (p.raw ++ rest) =
      .pfx p :: compsT (!normOf p.raw) true (toks (wsep (normOf p.raw)) rest) :=
  comps_of_parse (hs rest hok).1

/-- (R): the prefix followed by the bytes of a leading piece of the tokens re-parses to the prefix and
those tokens -/
theorem win_reparse {p : PrefixComp} (hs : Stable p) {rest : Bytes} (hok : RestOK p rest) {ts' x : List Tok}
    (hts : toks (wsep (normOf p.raw)) rest = ts' ++ x) :
    RestOK p (untoks ts') ∧ Enc.new .windows (p.raw ++ untoks ts') =
      { pre := some p, toks := ts', atBeg := true, k := !normOf p.raw } := by
  obtain ⟨hrest, ht⟩ := toks_piece hts
  have hok' : RestOK p (untoks ts') := restOK_prefix (hrest ▸ hok)
  exact ⟨hok', by rw [new_of_stable hs _ hok', ht]⟩

theorem win_reparse_pf {b : Bytes} (hpf : C16.pfxStart b = false) {ts' x : List Tok}
    (hts : toks (wsep true) b = ts' ++ x) :
    C16.pfxStart (untoks ts') = false ∧ Enc.new .windows (untoks ts') =
      { pre := none, toks := ts', atBeg := true, k := false } := by
  obtain ⟨hb, ht⟩ := toks_piece hts
  have hpf' : C16.pfxStart (untoks ts') = false := C16.pfxStart_prefix _ (untoks x) (hb ▸ hpf)
  exact ⟨hpf', by rw [new_of_pf _ hpf', ht]⟩

theorem parent_of_stable {b rest q : Bytes} {p : PrefixComp} (hp : parsePrefixComp b = some (p, rest))
    (hs : Stable p) (h : parent .windows b = some q) :
    ∃ rest' t, q = p.raw ++ rest' ∧ rest = rest' ++ t ∧ RestOK p rest' ∧
      comps .windows q = (comps .windows b).dropLast := by
  have hnew := new_of_parse hp
  have hok := restOK_of_parse hp
  obtain ⟨ts', x, hx, hq, hc⟩ := C09.parent_comps_of_reparse h fun ts' x hx => by
    rw [hnew] at hx ⊢
    exact (win_reparse hs hok hx).2
  rw [hnew] at hx hq
  exact ⟨untoks ts', untoks x, hq, (toks_piece hx).1, (win_reparse hs hok hx).1, hc⟩

theorem parent_of_pf {b q : Bytes} (hpf : C16.pfxStart b = false) (h : parent .windows b = some q) :
    C16.pfxStart q = false ∧ comps .windows q = (comps .windows b).dropLast := by
  have hnew := new_of_pf b hpf
  obtain ⟨ts', x, hx, hq, hc⟩ := C09.parent_comps_of_reparse h fun ts' x hx => by
    rw [hnew] at hx ⊢
    exact (win_reparse_pf hpf hx).2
  rw [hnew] at hx hq
  exact ⟨hq ▸ (win_reparse_pf hpf hx).1, hc⟩

/-- **Windows: the parent's components are the original's components without the last one**, and
the parent is again a well-formed path (so the statement iterates along `ancestors`). -/
theorem win_parent_comps (b q : Bytes) (hwf : WF b) (h : parent .windows b = some q) :
    comps .windows q = (comps .windows b).dropLast ∧ WF q := by
  rcases hwf with hpf | ⟨p, rest, hp, hc⟩
  · obtain ⟨h1, h2⟩ := parent_of_pf hpf h
    exact ⟨h2, Or.inl h1⟩
  · have hs := stable_of_complete hp hc
    obtain ⟨rest', _, rfl, _, hok, hcomps⟩ := parent_of_stable hp hs h
    exact ⟨hcomps, Or.inr ⟨p, rest', (hs rest' hok).1, hc⟩⟩

end TP.Win
