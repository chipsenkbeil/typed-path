/-
Lemmas/WinVerbatim.lean — Windows bases with a VERBATIM prefix: `push` rebuilds the path from a
component buffer (`verbatimFold`) and renders it with `\` (`verbatimRender`).  Here: the rendered
bytes re-parse to the buffer (with the root after the prefix written out), for every stable
verbatim prefix and every buffer made of the prefix, an optional root, and single-segment items.
-/
import TypedPathVerif.Lemmas.WinReparse

namespace TP.Win

open TP.JoinRules

/-- a component that renders to one segment and re-parses to itself under the separator set of a
path whose `normalize` flag is `n` (`.` is a component only when not normalising) -/
def Item (n : Bool) (c : Comp) : Prop :=
  (c = .cur ∧ n = false) ∨ c = .parent ∨
    ∃ s, c = .normal s ∧ s ≠ [] ∧ (∀ y ∈ s, wsep n y = false) ∧ s ≠ CUR ∧ s ≠ PAR

theorem Item.normal {n : Bool} {s : Bytes} (h1 : s ≠ []) (h2 : ∀ y ∈ s, wsep n y = false) (h3 : s ≠ CUR)
    (h4 : s ≠ PAR) : Item n (.normal s) :=
  .inr (.inr ⟨s, rfl, h1, h2, h3, h4⟩)

theorem Item.seg {n : Bool} {c : Comp} (h : Item n c) :
    c.bytes .windows ≠ [] ∧ (∀ y ∈ c.bytes .windows, wsep n y = false) ∧
      tokComp (!n) (.seg (c.bytes .windows)) = some c ∧ c ≠ .root ∧ (∀ p, c ≠ .pfx p) := by
  rcases h with ⟨rfl, rfl⟩ | rfl | ⟨s, rfl, h1, h2, h3, h4⟩
  · exact ⟨by decide, by decide, by decide, Comp.noConfusion, fun _ => Comp.noConfusion⟩
  · cases n <;> exact ⟨by decide, by decide, by decide, Comp.noConfusion, fun _ => Comp.noConfusion⟩
  · refine ⟨h1, h2, ?_, Comp.noConfusion, fun _ => Comp.noConfusion⟩
    simp only [Comp.bytes, tokComp, junk, h3, decide_false, Bool.and_false, Bool.false_eq_true, if_false,
      segComp, h4, false_and]

theorem Item.ne_root {n : Bool} {c : Comp} (h : Item n c) : c ≠ .root :=
  h.seg.2.2.2.1

/-- what `verbatimRender true` writes for a list of items (`verbatimRender_items`) -/
def renderItems : List Comp → Bytes
  | [] => []
  | c :: cs => [BSLASH] ++ c.bytes .windows ++ renderItems cs

/-- its tokens (`toks_renderItems`) -/
def itemToks : List Comp → List Tok
  | [] => []
  | c :: cs => .sep BSLASH :: .seg (c.bytes .windows) :: itemToks cs

theorem itemToks_notSegHead (cs : List Comp) : notSegHead (itemToks cs) := by
  cases cs <;> simp [itemToks, notSegHead]

theorem toks_renderItems (n : Bool) : ∀ (cs : List Comp), (∀ c ∈ cs, Item n c) →
    toks (wsep n) (renderItems cs) = itemToks cs := by
  intro cs
  induction cs with
  | nil => exact fun _ => rfl
  | cons c cs ih =>
    intro h
    obtain ⟨h1, h2, _, _, _⟩ := (h c (by simp)).seg
    have ih' := ih (fun x hx => h x (by simp [hx]))
    simp only [renderItems, itemToks, List.cons_append, List.nil_append, toks, wsep_bslash, if_true]
    rw [toks_append_seg h1 h2 ih' (itemToks_notSegHead cs)]

theorem body_itemToks (n : Bool) : ∀ (cs : List Comp), (∀ c ∈ cs, Item n c) → body (!n) (itemToks cs) = cs := by
  intro cs
  induction cs with
  | nil => exact fun _ => rfl
  | cons c cs ih =>
    intro h
    obtain ⟨_, _, h3, _, _⟩ := (h c (by simp)).seg
    have ih' := ih (fun x hx => h x (by simp [hx]))
    simp only [itemToks]
    rw [body_cons_junk _ (by rfl)]
    unfold body at ih' ⊢
    rw [List.filterMap_cons_some h3, ih']

/-- does a separator precede the component after `c`? (the `need_sep` flag) -/
def nextSep : Comp → Bool
  | .root => false
  | .pfx p => (match p.kind with | .disk _ => false | _ => true)
  | _ => true

theorem verbatimRender_cons (ns : Bool) (c : Comp) (cs : List Comp) :
    verbatimRender ns (c :: cs) =
      (if ns ∧ c ≠ .root then [BSLASH] else []) ++ c.bytes .windows ++ verbatimRender (nextSep c) cs := by
  cases c with
  | pfx p =>
    simp only [verbatimRender, nextSep]
    cases p.kind <;> rfl
  | _ => rfl

theorem nextSep_item {c : Comp} (hr : c ≠ .root) (hp : ∀ p, c ≠ .pfx p) : nextSep c = true := by
  cases c with
  | root => exact absurd rfl hr
  | pfx p => exact absurd rfl (hp p)
  | _ => rfl

theorem nextSep_verbatim {p : PrefixComp} (hv : isVerbatimKind p.kind = true) : nextSep (.pfx p) = true := by
  simp only [nextSep]
  cases hk : p.kind <;> first | rfl | (rw [hk] at hv; cases hv)

theorem verbatimRender_items {n : Bool} : ∀ (cs : List Comp), (∀ c ∈ cs, Item n c) →
    verbatimRender true cs = renderItems cs := by
  intro cs
  induction cs with
  | nil => exact fun _ => rfl
  | cons c cs ih =>
    intro h
    obtain ⟨_, _, _, hr, hp⟩ := (h c (by simp)).seg
    rw [verbatimRender_cons, nextSep_item hr hp, ih (fun x hx => h x (by simp [hx]))]
    simp [renderItems, hr]

theorem compsT_renderItems (n : Bool) (cs : List Comp) (h : ∀ c ∈ cs, Item n c) (hne : cs ≠ []) :
    compsT (!n) true (toks (wsep n) (renderItems cs)) = .root :: cs := by
  rw [toks_renderItems n cs h]
  cases cs with
  | nil => exact absurd rfl hne
  | cons c cs' =>
    simp only [itemToks, compsT_true_cons, headComp]
    have := body_itemToks n (c :: cs') h
    simp only [itemToks] at this
    rw [body_cons_junk _ (by rfl)] at this
    rw [this]

/-- the buffer shapes that arise under a verbatim prefix: prefix, optional root, items -/
inductive VShape (n : Bool) (p : PrefixComp) : List Comp → Prop
  | bare (items : List Comp) : (∀ c ∈ items, Item n c) → VShape n p (.pfx p :: items)
  | rooted (items : List Comp) : (∀ c ∈ items, Item n c) → VShape n p (.pfx p :: .root :: items)

theorem vshape_iff {n : Bool} {p : PrefixComp} {L : List Comp} :
    VShape n p L ↔ ∃ lead items, (lead = [.pfx p] ∨ lead = [.pfx p, .root]) ∧ L = lead ++ items ∧
      ∀ c ∈ items, Item n c := by
  constructor
  · rintro (⟨items, hi⟩ | ⟨items, hi⟩)
    · exact ⟨_, items, .inl rfl, rfl, hi⟩
    · exact ⟨_, items, .inr rfl, rfl, hi⟩
  · rintro ⟨_, items, rfl | rfl, rfl, hi⟩
    · exact .bare items hi
    · exact .rooted items hi

/-- the buffer with the root after the prefix written out (nothing to write when the prefix is
alone) -/
def withRoot : List Comp → List Comp
  | [.pfx p] => [.pfx p]
  | .pfx p :: .root :: r => .pfx p :: .root :: r
  | .pfx p :: r => .pfx p :: .root :: r
  | l => l

theorem withRoot_getLast? (l : List Comp) : (withRoot l).getLast? = l.getLast? := by
  unfold withRoot
  split
  · rfl
  · rfl
  · rename_i p r h1 h2
    cases r with
    | nil => exact absurd rfl h1
    | cons d t => rw [List.getLast?_cons_cons, List.getLast?_cons_cons, List.getLast?_cons_cons]
  · rfl

theorem isVerbatimKind_not_disk {k : WPrefix} (h : isVerbatimKind k = true) : ∀ d, k ≠ .disk d := by
  intro d hd
  rw [hd] at h
  cases h

theorem verbatimRender_pfx {p : PrefixComp} (hv : isVerbatimKind p.kind = true) (rest : List Comp) :
    verbatimRender false (.pfx p :: rest) = p.raw ++ verbatimRender true rest := by
  rw [verbatimRender_cons, nextSep_verbatim hv]
  simp [Comp.bytes]

theorem verbatimRender_root (ns : Bool) (rest : List Comp) :
    verbatimRender ns (.root :: rest) = BSLASH :: verbatimRender false rest := by
  rw [verbatimRender_cons]
  simp [Comp.bytes, Enc.sepByte, nextSep]

/-- with at least one item the rendering does not depend on whether the buffer holds the root after the prefix:
the `\` before the first item is written either way -/
theorem verbatimRender_vshape {n : Bool} {p : PrefixComp} (hv : isVerbatimKind p.kind = true) {L : List Comp}
    (hL : VShape n p L) :
    (withRoot L = [.pfx p] ∧ verbatimRender false L = p.raw) ∨
    (withRoot L = [.pfx p, .root] ∧ verbatimRender false L = p.raw ++ [BSLASH]) ∨
    ∃ items, items ≠ [] ∧ (∀ c ∈ items, Item n c) ∧ withRoot L = .pfx p :: .root :: items ∧
      verbatimRender false L = p.raw ++ renderItems items := by
  cases hL with
  | bare items hi =>
    rw [verbatimRender_pfx hv, verbatimRender_items items hi]
    cases items with
    | nil => exact .inl ⟨rfl, List.append_nil _⟩
    | cons c cs =>
      refine .inr (.inr ⟨c :: cs, List.cons_ne_nil _ _, hi, ?_, rfl⟩)
      have hcr : c ≠ .root := (hi c (List.mem_cons_self ..)).ne_root
      cases c <;> first | exact absurd rfl hcr | rfl
  | rooted items hi =>
    rw [verbatimRender_pfx hv, verbatimRender_root]
    cases items with
    | nil => exact .inr (.inl ⟨rfl, rfl⟩)
    | cons c cs =>
      obtain ⟨_, _, _, hcr, hcp⟩ := (hi c (List.mem_cons_self ..)).seg
      refine .inr (.inr ⟨c :: cs, List.cons_ne_nil _ _, hi, rfl, ?_⟩)
      rw [verbatimRender_cons, nextSep_item hcr hcp, verbatimRender_items cs (fun x hx => hi x (List.mem_cons_of_mem _ hx))]
      simp [renderItems]

/-- **Render then parse**: for a stable verbatim prefix, the rendered buffer re-parses to the buffer
with the root written out; the result is the raw prefix followed by nothing or by `\…`, and parses
to that prefix again. -/
theorem render_parse_strong {p : PrefixComp} (hs : Stable p) (hv : isVerbatimKind p.kind = true)
    (L : List Comp) (hL : VShape (normOf p.raw) p L) :
    comps .windows (verbatimRender false L) = withRoot L ∧
    ∃ rest', verbatimRender false L = p.raw ++ rest' ∧ HeadOK (wsep (normOf p.raw)) rest' ∧
      parsePrefixComp (p.raw ++ rest') = some (p, rest') := by
  rcases verbatimRender_vshape hv hL with ⟨hw, hr⟩ | ⟨hw, hr⟩ | ⟨items, hne, hi, hw, hr⟩
  · have hok := restOK_nil p
    refine ⟨?_, [], by rw [hr, List.append_nil], trivial, (hs [] hok).1⟩
    rw [hr, hw, ← List.append_nil p.raw, comps_of_stable hs [] hok]
    rfl
  · have hok := restOK_bslash p []
    refine ⟨?_, [BSLASH], hr, wsep_bslash _, (hs _ hok).1⟩
    rw [hr, hw, comps_of_stable hs _ hok]
    rw [toks_cons_sep [] (wsep_bslash _)]
    rfl
  · obtain ⟨c, cs, rfl⟩ : ∃ c cs, items = c :: cs := by
      cases items with
      | nil => exact absurd rfl hne
      | cons c cs => exact ⟨c, cs, rfl⟩
    have hok : RestOK p (renderItems (c :: cs)) := restOK_bslash p _
    refine ⟨?_, _, hr, wsep_bslash _, (hs _ hok).1⟩
    rw [hr, hw, comps_of_stable hs _ hok, compsT_renderItems _ _ hi hne]

theorem render_parse_of_stable {p : PrefixComp} (hs : Stable p)
    (hv : isVerbatimKind p.kind = true) (L : List Comp)
    (hL : VShape (normOf p.raw) p L) :
    comps .windows (verbatimRender false L) = withRoot L ∧
    ∃ rest', verbatimRender false L = p.raw ++ rest' ∧ parsePrefixComp (p.raw ++ rest') = some (p, rest') := by
  obtain ⟨h1, rest', h2, _, h3⟩ := render_parse_strong hs hv L hL
  exact ⟨h1, rest', h2, h3⟩

theorem render_parse {b rest : Bytes} {p : PrefixComp} (hp : parsePrefixComp b = some (p, rest))
    (hc : Complete p.kind) (hv : isVerbatimKind p.kind = true) (L : List Comp)
    (hL : VShape (normOf p.raw) p L) :
    comps .windows (verbatimRender false L) = withRoot L ∧
    ∃ rest', verbatimRender false L = p.raw ++ rest' ∧ parsePrefixComp (p.raw ++ rest') = some (p, rest') :=
  render_parse_of_stable (stable_of_complete hp hc) hv L hL

end TP.Win
