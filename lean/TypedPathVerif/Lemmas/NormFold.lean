/-
Lemmas/NormFold.lean — the stack of `Path::normalize` (`normFold`) as a function on component lists,
one component at a time (`nstep`, `normFold_cons`; what every step keeps, the fold keeps:
`normFold_keeps`): it only ever drops components, leaves no `.` / `..`, and a component that is no name
stays at the bottom of the stack (`normFold_cons_head`); the names above a part of the stack that stays, as a
fold of their own (`C11b.nameFold`: the checked join is stated with it); what follows for `normalize` wherever
rendering parses back.
Then the scan of a push under a verbatim prefix (`verbatimFold`), one step at a time (`vstep`): the
same step, except that a root resets the buffer.
-/
import TypedPathVerif.Model.Path

namespace TP

/-- what one component does to the stack -/
def nstep (st : List Comp) : Comp → List Comp
  | .cur => st
  | .parent => match st.getLast? with | some (.normal _) => st.dropLast | _ => st
  | c => st ++ [c]

theorem normFold_cons (st : List Comp) (c : Comp) (cs : List Comp) :
    normFold st (c :: cs) = normFold (nstep st c) cs := by
  cases c with
  | parent =>
    simp only [normFold, nstep, Comp.isCur, Comp.isParent, Bool.not_false, Bool.not_true, Bool.and_false,
      Bool.false_eq_true, if_false, if_true]
    cases st.getLast? with
    | none => rfl
    | some l => cases l <;> rfl
  | _ => rfl

theorem nstep_keep {c : Comp} (h : c ≠ .cur ∧ c ≠ .parent) (st : List Comp) : nstep st c = st ++ [c] := by
  cases c with
  | cur => exact absurd rfl h.1
  | parent => exact absurd rfl h.2
  | _ => rfl

/-- `..` pops a name and nothing else -/
theorem nstep_parent_snoc (st : List Comp) (a : Comp) :
    nstep (st ++ [a]) .parent = match a with | .normal _ => st | _ => st ++ [a] := by
  simp only [nstep, List.getLast?_concat, List.dropLast_concat]
  cases a <;> rfl

/-- a step adds nothing but the component itself, and that only if it is neither `.` nor `..` -/
theorem nstep_mem {st : List Comp} {c x : Comp} (h : x ∈ nstep st c) :
    x ∈ st ∨ (x = c ∧ c ≠ .cur ∧ c ≠ .parent) := by
  cases c with
  | cur => exact .inl h
  | parent =>
    simp only [nstep] at h
    split at h
    · exact .inl ((List.dropLast_sublist st).subset h)
    · exact .inl h
  | _ => exact (List.mem_append.mp h).imp_right fun h => ⟨List.mem_singleton.mp h, nofun, nofun⟩

theorem nstep_sublist (st : List Comp) (c : Comp) : (nstep st c).Sublist (st ++ [c]) := by
  cases c with
  | cur => exact List.sublist_append_left st _
  | parent =>
    simp only [nstep]
    split
    · exact (List.dropLast_sublist st).trans (List.sublist_append_left st _)
    · exact List.sublist_append_left st _
  | _ => exact List.Sublist.refl _

theorem normFold_keep {c : Comp} (h : c ≠ .cur ∧ c ≠ .parent) (st cs : List Comp) :
    normFold st (c :: cs) = normFold (st ++ [c]) cs := by
  rw [normFold_cons, nstep_keep h]

/-- what every step keeps, the fold keeps -/
theorem normFold_keeps {P : List Comp → Prop} (hstep : ∀ st c, P st → P (nstep st c)) :
    ∀ (cs st : List Comp), P st → P (normFold st cs)
  | [], _, h => h
  | c :: cs, st, h => by
    rw [normFold_cons]
    exact normFold_keeps hstep cs _ (hstep st c h)

theorem normFold_sublist : ∀ (cs st : List Comp), (normFold st cs).Sublist (st ++ cs)
  | [], st => by
    rw [List.append_nil]
    exact List.Sublist.refl st
  | c :: cs, st => by
    rw [normFold_cons, ← List.singleton_append, ← List.append_assoc]
    exact (normFold_sublist cs _).trans (List.Sublist.append_right (nstep_sublist st c) cs)

theorem normFold_no_dots (cs st : List Comp) (h : ∀ c ∈ st, c ≠ .cur ∧ c ≠ .parent) :
    ∀ c ∈ normFold st cs, c ≠ .cur ∧ c ≠ .parent :=
  normFold_keeps (P := fun st => ∀ c ∈ st, c ≠ .cur ∧ c ≠ .parent)
    (fun _ _ h x hx => (nstep_mem hx).elim (h x) fun ⟨e, hc⟩ => e ▸ hc) cs st h

theorem normFold_id_of_no_dots : ∀ (cs st : List Comp), (∀ c ∈ cs, c ≠ .cur ∧ c ≠ .parent) →
    normFold st cs = st ++ cs
  | [], st, _ => (List.append_nil st).symm
  | c :: cs, st, h => by
    rw [normFold_keep (h c (List.mem_cons_self ..)),
      normFold_id_of_no_dots cs _ (fun x hx => h x (List.mem_cons_of_mem _ hx)), List.append_assoc,
      List.singleton_append]

/-- `..` pops names only: a component that is no name stays at the bottom of the stack -/
theorem nstep_cons_head {c : Comp} (hc : c.isNormal = false) (st : List Comp) (x : Comp) :
    nstep (c :: st) x = c :: nstep st x := by
  cases x with
  | parent =>
    cases st with
    | nil =>
      cases c with
      | normal s => cases hc
      | _ => rfl
    | cons d t =>
      simp only [nstep, List.getLast?_cons_cons, List.dropLast_cons_cons]
      split
      · rfl
      · rfl
  | _ => rfl

theorem normFold_cons_head {c : Comp} (hc : c.isNormal = false) : ∀ (cs st : List Comp),
    normFold (c :: st) cs = c :: normFold st cs
  | [], _ => rfl
  | x :: cs, st => by
    rw [normFold_cons, normFold_cons, nstep_cons_head hc, normFold_cons_head hc cs]

theorem normFold_head {c : Comp} (hc : c.isNormal = false) (cs st : List Comp) :
    (normFold (c :: st) cs).head? = some c := by
  rw [normFold_cons_head hc]
  rfl

theorem normFold_nil_cons {c : Comp} (h : c ≠ .cur ∧ c ≠ .parent) (hc : c.isNormal = false) (cs : List Comp) :
    normFold [] (c :: cs) = c :: normFold [] cs := by
  rw [normFold_keep h, List.nil_append, normFold_cons_head hc]

theorem normFold_mem {cs : List Comp} {x : Comp} (hx : x ∈ normFold [] cs) : x ∈ cs ∧ x ≠ .cur ∧ x ≠ .parent :=
  ⟨(normFold_sublist cs []).subset hx, normFold_no_dots cs [] (fun _ h => nomatch h) x hx⟩

/-! ### the names above a part of the stack that stays -/

namespace C11b

/-- the fold restricted to the names above a fixed base -/
def nameFold : List Bytes → List Comp → List Bytes
  | ns, [] => ns
  | ns, .normal s :: cs => nameFold (ns ++ [s]) cs
  | ns, .parent :: cs => nameFold ns.dropLast cs
  | ns, _ :: cs => nameFold ns cs

/-- components that may follow the leading prefix / root: `.`, `..`, names -/
def bodyOK (c : Comp) : Prop := c = .cur ∨ c = .parent ∨ ∃ s, c = .normal s

theorem normFold_names_step (pre : List Comp) (ns : List Bytes) {c : Comp} (cs : List Comp) (hc : bodyOK c)
    (h : c = .parent → ns ≠ []) :
    normFold (pre ++ ns.map Comp.normal) (c :: cs) = normFold (pre ++ (nameFold ns [c]).map Comp.normal) cs := by
  rcases hc with rfl | rfl | ⟨s, rfl⟩
  · rfl
  · obtain ⟨ns', s, rfl⟩ : ∃ ns' s, ns = ns' ++ [s] := by
      rcases List.eq_nil_or_concat ns with h0 | ⟨ns', s, h0⟩
      · exact absurd h0 (h rfl)
      · exact ⟨ns', s, by rw [h0, List.concat_eq_append]⟩
    rw [List.map_append, ← List.append_assoc]
    rw [normFold_cons, List.map_singleton, nstep_parent_snoc]
    simp [nameFold]
  · rw [normFold_keep ⟨Comp.noConfusion, Comp.noConfusion⟩]
    simp [nameFold]

theorem nameFold_cons (ns : List Bytes) (c : Comp) (cs : List Comp) :
    nameFold ns (c :: cs) = nameFold (nameFold ns [c]) cs := by
  cases c <;> rfl

theorem nameFold_subset : ∀ (cs : List Comp) (ns : List Bytes) (s : Bytes), s ∈ nameFold ns cs →
    s ∈ ns ∨ Comp.normal s ∈ cs
  | [], _, _, h => .inl h
  | c :: cs, ns, s, h => by
    rw [nameFold_cons] at h
    rcases nameFold_subset cs _ s h with h | h
    · cases c with
      | normal t =>
        have h : s ∈ ns ++ [t] := h
        rcases List.mem_append.mp h with h | h
        · exact .inl h
        · exact .inr (List.mem_singleton.mp h ▸ List.mem_cons_self ..)
      | parent => exact .inl ((List.dropLast_sublist ns).subset h)
      | _ => exact .inl h
    · exact .inr (List.mem_cons_of_mem _ h)

end C11b

/-- Whenever the normalised path parses to the fold of the input's components, it has no `.` and
no `..` … -/
theorem normalize_no_dots_of_render (e : Enc) (b : Bytes)
    (h : comps e (normalize e b) = normFold [] (comps e b)) :
    ∀ c ∈ comps e (normalize e b), c ≠ .cur ∧ c ≠ .parent := by
  rw [h]
  exact normFold_no_dots _ [] (fun _ hc => nomatch hc)

/-- … and normalising it again returns the same bytes. -/
theorem normalize_idem_of_render (e : Enc) (b : Bytes)
    (h : comps e (normalize e b) = normFold [] (comps e b)) :
    normalize e (normalize e b) = normalize e b := by
  have hnd := normalize_no_dots_of_render e b h
  rw [h] at hnd
  show pushAll e [] (normFold [] (comps e (normalize e b))) = _
  rw [h, normFold_id_of_no_dots _ [] hnd]
  rfl

/-! ### the scan of a push under a verbatim prefix (`verbatimFold`) -/

/-- what one incoming component does to the buffer -/
def vstep (buf : List Comp) : Comp → List Comp
  | .root => buf.take 1 ++ [.root]
  | c => nstep buf c

theorem verbatimFold_cons (buf : List Comp) (c : Comp) (cs : List Comp) :
    verbatimFold buf (c :: cs) = verbatimFold (vstep buf c) cs := by
  cases c with
  | parent =>
    simp only [verbatimFold, vstep, nstep]
    cases buf.getLast? with
    | none => rfl
    | some l => cases l <;> rfl
  | _ => rfl

theorem vstep_parent_snoc (buf : List Comp) (a : Comp) :
    vstep (buf ++ [a]) .parent = match a with | .normal _ => buf | _ => buf ++ [a] :=
  nstep_parent_snoc buf a

theorem verbatimFold_keeps {P : List Comp → Prop} {Q : Comp → Prop}
    (hstep : ∀ buf c, P buf → Q c → P (vstep buf c)) :
    ∀ (cs buf : List Comp), P buf → (∀ c ∈ cs, Q c) → P (verbatimFold buf cs)
  | [], _, h, _ => h
  | c :: cs, buf, h, hcs => by
    rw [verbatimFold_cons]
    exact verbatimFold_keeps hstep cs _ (hstep buf c h (hcs c (List.mem_cons_self ..)))
      (fun x hx => hcs x (List.mem_cons_of_mem _ hx))

theorem vstep_mem {buf : List Comp} {c x : Comp} (h : x ∈ vstep buf c) :
    x ∈ buf ∨ (x = c ∧ c ≠ .cur ∧ c ≠ .parent) := by
  cases c with
  | root =>
    rcases List.mem_append.mp h with h | h
    · exact .inl (List.mem_of_mem_take h)
    · exact .inr ⟨List.mem_singleton.mp h, nofun, nofun⟩
  | _ => exact nstep_mem h

theorem verbatimFold_all {P : Comp → Prop} (cs buf : List Comp) (hb : ∀ c ∈ buf, P c)
    (hcs : ∀ c ∈ cs, c ≠ .cur → P c) : ∀ c ∈ verbatimFold buf cs, P c :=
  verbatimFold_keeps (P := fun b => ∀ c ∈ b, P c) (Q := fun c => c ≠ .cur → P c)
    (fun _ _ hb hc x hx => (vstep_mem hx).elim (hb x) fun ⟨e, hne⟩ => e ▸ hc hne.1) cs buf hb hcs

theorem verbatimFold_append : ∀ (xs ys L : List Comp),
    verbatimFold L (xs ++ ys) = verbatimFold (verbatimFold L xs) ys
  | [], _, _ => rfl
  | c :: xs, ys, L => by
    rw [List.cons_append, verbatimFold_cons, verbatimFold_cons]
    exact verbatimFold_append xs ys _

/-- the two folds differ only in what a root does -/
theorem verbatimFold_eq_normFold : ∀ (cs st : List Comp), .root ∉ cs → verbatimFold st cs = normFold st cs
  | [], _, _ => rfl
  | c :: cs, st, h => by
    have hc : vstep st c = nstep st c := by
      cases c with
      | root => exact absurd (List.mem_cons_self ..) h
      | _ => rfl
    rw [verbatimFold_cons, normFold_cons, hc]
    exact verbatimFold_eq_normFold cs _ fun h' => h (List.mem_cons_of_mem _ h')

end TP
