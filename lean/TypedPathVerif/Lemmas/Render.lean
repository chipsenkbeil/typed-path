/-
Lemmas/Render.lean — rendering is a right inverse of parsing (Unix), parse ∘ render = id: a parsed
component list, rebuilt by pushing its components one by one onto the empty buffer, parses back to
itself.  (Not the other way round: `a//b` parses to `[a, b]`, which renders as `a/b`.)
`Path::normalize` and `PathBuf::set_file_name` render this way.  The induction over the pushes
(`pushAll_comps`) is for either encoding; the Windows renderings (Props/C11b, C12d, C16b) use it too.
-/
import TypedPathVerif.Lemmas.Append
import TypedPathVerif.Lemmas.Parsed

namespace TP

theorem unix_comps_parsed (b : Bytes) : Parsed usep (comps .unix b) := by
  rw [unix_comps_eq]
  exact compsT_parsed (WFToks_toks usep b)

theorem unix_comps_name {s : Bytes} (h : nameOKs usep s) : comps .unix s = [.normal s] := by
  rw [unix_comps_eq, compsT_name false h]

theorem unix_comps_root : comps .unix [SLASH] = [.root] := by
  rw [unix_comps_eq]
  decide

theorem unix_comps_cur : comps .unix CUR = [.cur] := by
  rw [unix_comps_eq]
  decide

theorem unix_comps_par : comps .unix PAR = [.parent] := by
  rw [unix_comps_eq]
  decide

theorem unix_comps_bytes_tail {c : Comp} (h : tailOKs usep c) : comps .unix (c.bytes .unix) = [c] := by
  rcases h with rfl | ⟨s, rfl, hs⟩
  · exact unix_comps_par
  · exact unix_comps_name hs

theorem dropLeadingCur_tail {f : UInt8 → Bool} {cs : List Comp} (h : ∀ x ∈ cs, tailOKs f x) :
    dropLeadingCur cs = cs := by
  cases cs with
  | nil => rfl
  | cons c r =>
    cases c with
    | cur => exact absurd rfl (h .cur (List.mem_cons_self ..)).ne_cur
    | _ => rfl

/-- Pushing a path that consists of `..` and names only — one that could stand in the middle of a
path — appends its components, whether or not the buffer (or the path) is empty. -/
theorem unix_push_tail (cur p : Bytes) (h : ∀ x ∈ comps .unix p, tailOKs usep x) :
    comps .unix (unixPush cur p) = comps .unix cur ++ comps .unix p := by
  by_cases hc : cur = []
  · subst hc
    rw [unixPush_nil_left, unix_comps_nil]
    rfl
  · rw [unix_push_comps cur p (unix_isAbsolute_false_of_no_root (fun hr => (h _ hr).ne_root rfl)) hc,
      dropLeadingCur_tail h]

theorem unix_push_bytes_tail (buf : Bytes) {c : Comp} (h : tailOKs usep c) :
    comps .unix (unixPush buf (c.bytes .unix)) = comps .unix buf ++ [c] := by
  have hc := unix_comps_bytes_tail h
  rw [unix_push_tail _ _ (by rw [hc]; exact fun x hx => List.mem_singleton.mp hx ▸ h), hc]

theorem pushAll_append (e : Enc) : ∀ (l1 l2 : List Comp) (buf : Bytes),
    pushAll e buf (l1 ++ l2) = pushAll e (pushAll e buf l1) l2
  | [], _, _ => rfl
  | _ :: l1, l2, _ => pushAll_append e l1 l2 _

/-- Pushing components one by one appends them, as long as every single push does so and keeps what it
needs of the buffer. -/
theorem pushAll_comps {e : Enc} {P : Bytes → Prop} : ∀ (cs : List Comp) (buf : Bytes),
    (∀ b, ∀ c ∈ cs, P b → P (push e b (c.bytes e)) ∧ comps e (push e b (c.bytes e)) = comps e b ++ [c]) →
    P buf → P (pushAll e buf cs) ∧ comps e (pushAll e buf cs) = comps e buf ++ cs
  | [], _, _, h => ⟨h, (List.append_nil _).symm⟩
  | c :: cs, buf, hstep, h => by
    obtain ⟨h1, h2⟩ := hstep buf c (List.mem_cons_self ..) h
    obtain ⟨i1, i2⟩ := pushAll_comps cs _ (fun b x hx => hstep b x (List.mem_cons_of_mem _ hx)) h1
    refine ⟨i1, ?_⟩
    rw [pushAll, i2, h2, List.append_assoc]
    rfl

theorem pushAll_tail (cs : List Comp) (buf : Bytes) (h : ∀ c ∈ cs, tailOKs usep c) :
    comps .unix (pushAll .unix buf cs) = comps .unix buf ++ cs :=
  (pushAll_comps (P := fun _ => True) cs buf (fun b c hc _ => ⟨trivial, unix_push_bytes_tail b (h c hc)⟩)
    trivial).2

/-- The render lemma: a parsed list, rebuilt by pushing its components one by one, parses back to
exactly that list. -/
theorem render_parsed (l : List Comp) (h : Parsed usep l) : comps .unix (pushAll .unix [] l) = l := by
  cases l with
  | nil => exact unix_comps_nil
  | cons c cs =>
    rcases h.1 with rfl | rfl | hc
    · -- pushing the root onto the empty buffer gives `/` (and `.` gives `.`): `exact` accepts the left side
      -- because the kernel evaluates `push`, and with it the parser, on the literal `[SLASH]` (`CUR`)
      exact (pushAll_tail cs [SLASH] h.2).trans (by rw [unix_comps_root]; rfl)
    · exact (pushAll_tail cs CUR h.2).trans (by rw [unix_comps_cur]; rfl)
    · have := pushAll_tail (c :: cs) [] (fun x hx => by
        rcases List.mem_cons.mp hx with rfl | hx
        · exact hc
        · exact h.2 x hx)
      rwa [unix_comps_nil] at this

end TP
