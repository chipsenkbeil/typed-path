/-
Lemmas/WinAppend.lean — the append law (A) for Windows bases WITH a (complete, non-verbatim)
prefix: disk, device namespace, UNC.  Pushing a non-empty, prefix-free, relative argument

* onto `prefix ++ rest` with `rest ≠ ""` appends the argument's components (minus a leading `.`)
  after the separator `push` supplies (`push_prefixed`, for every stable non-verbatim prefix);
* onto a bare disk prefix `X:` puts the argument's components directly after the prefix
  (a leading `.` is kept: `C:` + `.` = `C:.`);
* onto a bare device-namespace / UNC prefix materialises the implicit root and then appends
  (`push_bare`).

In each case the result is the same prefix followed by something it tolerates.
-/
import TypedPathVerif.Lemmas.WinReparse
import TypedPathVerif.Lemmas.WinGlue
import TypedPathVerif.Lemmas.WinPush

namespace TP.Win

open TP.JoinRules

theorem prefixOf_of_stable {p : PrefixComp} (hs : Stable p) {rest : Bytes} (hok : RestOK p rest) :
    prefixOf (p.raw ++ rest) = some p :=
  prefixOf_of_comp (hs rest hok).1

theorem comps_prefixed {a rest : Bytes} {p : PrefixComp} (hpa : parsePrefixComp a = some (p, rest))
    (hc : Complete p.kind) (hnv : isVerbatimKind p.kind = false) :
    comps .windows a = .pfx p :: compsT false true (toks (wsep true) rest) := by
  rw [comps_of_parse hpa, normOf_raw_of_complete hpa hc hnv]
  rfl

theorem bare_of_stable {p : PrefixComp} (hs : Stable p) :
    prefixOf p.raw = some p ∧ comps .windows p.raw = [.pfx p] := by
  have hpo := prefixOf_of_stable hs (restOK_nil p)
  have hc := comps_of_stable hs [] (restOK_nil p)
  rw [List.append_nil] at hpo hc
  exact ⟨hpo, hc⟩

theorem push_prefixed {a rest q : Bytes} {p : PrefixComp} (hpa : parsePrefixComp a = some (p, rest))
    (hs : Stable p) (hn : normOf p.raw = true) (hnv : isVerbatimKind p.kind = false) (hrest : rest ≠ [])
    (hqne : q ≠ []) (hq : C16.pfxStart q = false) (hrel : startsWithSep q = false) :
    windowsPush a q = p.raw ++ (rest ++ sepGlue rest ++ q) ∧
      RestOK p (rest ++ sepGlue rest ++ q) ∧
      comps .windows (windowsPush a q) = comps .windows a ++ dropLeadingCur (comps .windows q) := by
  have hpo := prefixOf_of_comp hpa
  -- the first byte after the prefix is unchanged
  have hok' : RestOK p (rest ++ sepGlue rest ++ q) := by
    rw [List.append_assoc]
    exact restOK_same_front [] _ hrest (by rw [List.append_nil]; exact restOK_of_parse hpa)
  have hbytes : windowsPush a q = p.raw ++ (rest ++ sepGlue rest ++ q) := by
    have hraw := parsePrefixComp_raw hpa
    have hglue : sepGlue a = sepGlue rest := hraw ▸ sepGlue_append p.raw hrest
    have hbare : isBareDrive a = false := by
      have : a ≠ p.raw := fun hE =>
        hrest (List.append_cancel_left (as := p.raw) (cs := []) (by rw [List.append_nil, hraw, hE]))
      simp [isBareDrive, hpo, this]
    rw [windowsPush_glue hqne (prefixOf_none_of_pf q hq) ((baseIsVerbatim_of_prefixOf hpo).trans hnv) hrel
      (by rw [← hraw]; simp [hrest]) hbare, hglue, ← hraw]
    simp only [List.append_assoc]
  refine ⟨hbytes, hok', ?_⟩
  rw [hbytes, comps_of_stable hs _ hok', comps_of_parse hpa, hn, C16.win_comps_pf q hq]
  exact congrArg (Comp.pfx p :: ·) (compsT_glue rest q hrest hrel)

/-- onto a bare prefix: directly after a disk prefix, after a separator otherwise -/
theorem push_bare {p : PrefixComp} (hs : Stable p) (hn : normOf p.raw = true) (hnv : isVerbatimKind p.kind = false)
    (hend : (∀ d, p.kind ≠ .disk d) → endsWithSep p.raw = false)
    {q : Bytes} (hqne : q ≠ []) (hq : C16.pfxStart q = false) (hrel : startsWithSep q = false) :
    ∃ rest', windowsPush p.raw q = p.raw ++ rest' ∧ RestOK p rest' ∧
      comps .windows (p.raw ++ rest') =
        (match p.kind with
         | .disk _ => .pfx p :: comps .windows q
         | _ => .pfx p :: .root :: dropLeadingCur (comps .windows q)) := by
  have hpo := (bare_of_stable hs).1
  have hpush := C08.windowsPush_append (a := p.raw) hqne (prefixOf_none_of_pf q hq)
    ((baseIsVerbatim_of_prefixOf hpo).trans hnv) hrel
  have hcomps : ∀ rest', RestOK p rest' →
      comps .windows (p.raw ++ rest') = .pfx p :: compsT false true (toks (wsep true) rest') := by
    intro rest' hok
    rw [comps_of_stable hs rest' hok, hn]
    rfl
  by_cases hd : ∃ d, p.kind = .disk d
  · obtain ⟨d, hd⟩ := hd
    have hok : RestOK p q := restOK_of_headOK fun hnd => absurd hd (hnd d)
    refine ⟨q, ?_, hok, ?_⟩
    · rw [hpush]
      simp [isBareDrive, hpo, hd]
    · rw [hcomps q hok, hd, C16.win_comps_pf q hq]
  · have hnd : ∀ d, p.kind ≠ .disk d := fun d h => hd ⟨d, h⟩
    have he := hend hnd
    have hbd : isBareDrive p.raw = false := by
      simp only [isBareDrive, hpo]
      cases hk : p.kind <;> first | rfl | exact absurd hk (hnd _)
    refine ⟨BSLASH :: q, ?_, restOK_bslash p q, ?_⟩
    · rw [hpush]
      simp [he, hbd, hs.raw_ne_nil]
    · rw [hcomps _ (restOK_bslash p q), C16.win_comps_pf q hq]
      rw [toks_cons_sep q (wsep_bslash true), compsT_true_cons, body_eq_dropLeadingCur _ (rel_of_not_startsWithSep q hrel)]
      cases hk : p.kind <;> first | rfl | exact absurd hk (hnd _)

/-- **(A) for Windows bases with a complete non-verbatim prefix.** -/
theorem win_push_comps_prefixed (a q rest : Bytes) (p : PrefixComp)
    (hpa : parsePrefixComp a = some (p, rest)) (hc : Complete p.kind) (hnv : isVerbatimKind p.kind = false)
    (hqne : q ≠ []) (hq : C16.pfxStart q = false) (hrel : startsWithSep q = false) :
    WF (windowsPush a q) ∧
    comps .windows (windowsPush a q) =
      (if rest = [] then
        (match p.kind with
         | .disk _ => .pfx p :: comps .windows q
         | _ => .pfx p :: .root :: dropLeadingCur (comps .windows q))
       else comps .windows a ++ dropLeadingCur (comps .windows q)) := by
  have hs := stable_of_complete hpa hc
  have hn := normOf_raw_of_complete hpa hc hnv
  have hwf : ∀ rest', RestOK p rest' → WF (p.raw ++ rest') := fun rest' hok =>
    Or.inr ⟨p, rest', (hs rest' hok).1, hc⟩
  by_cases hrest : rest = []
  · subst hrest
    obtain ⟨rest', h1, h2, h3⟩ := push_bare hs hn hnv (endsWithSep_raw_of_complete hpa hc hnv) hqne hq hrel
    rw [← parsePrefixComp_raw hpa, List.append_nil, if_pos rfl, h1]
    exact ⟨hwf _ h2, h3⟩
  · obtain ⟨h1, h2, h3⟩ := push_prefixed hpa hs hn hnv hrest hqne hq hrel
    rw [if_neg hrest]
    exact ⟨by rw [h1]; exact hwf _ h2, h3⟩

end TP.Win
