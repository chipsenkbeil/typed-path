/-
Lemmas/Canon.lean — on the components of a path without prefix `Component::as_bytes` is injective:
the text can be read back.  There `starts_with` / `ends_with`, which compare texts, are about components.
-/
import TypedPathVerif.Lemmas.Parsed
import TypedPathVerif.Lemmas.IterAfter

namespace TP

/-- components whose text tells what they are: no prefix, and a name is none of `.`, `..`, the
separator -/
def canon (e : Enc) : Comp → Prop
  | .pfx _ => False
  | .normal s => s ≠ CUR ∧ s ≠ PAR ∧ s ≠ [e.sepByte]
  | _ => True

/-- the component a text stands for -/
def ofText (e : Enc) (s : Bytes) : Comp :=
  if s = [e.sepByte] then .root else if s = CUR then .cur else if s = PAR then .parent else .normal s

theorem ofText_bytes {e : Enc} {c : Comp} (h : canon e c) : ofText e (c.bytes e) = c := by
  cases c with
  | pfx p => exact h.elim
  | normal s => simp [ofText, Comp.bytes, h.1, h.2.1, h.2.2]
  | _ => cases e <;> decide

theorem bytes_inj_of_canon {e : Enc} {x y : Comp} (hx : canon e x) (hy : canon e y)
    (h : x.bytes e = y.bytes e) : x = y := by
  rw [← ofText_bytes hx, ← ofText_bytes hy, h]

theorem map_bytes_inj_of_canon {e : Enc} {l1 l2 : List Comp} (h1 : ∀ x ∈ l1, canon e x) (h2 : ∀ y ∈ l2, canon e y)
    (h : l1.map (Comp.bytes e) = l2.map (Comp.bytes e)) : l1 = l2 := by
  induction l1 generalizing l2 with
  | nil =>
    cases l2 with
    | nil => rfl
    | cons _ _ => simp at h
  | cons a l1 ih =>
    cases l2 with
    | nil => simp at h
    | cons b l2 =>
      simp only [List.map_cons, List.cons.injEq] at h
      rw [bytes_inj_of_canon (h1 a (by simp)) (h2 b (by simp)) h.1,
        ih (fun x hx => h1 x (by simp [hx])) (fun y hy => h2 y (by simp [hy])) h.2]

theorem map_prefix_iff_of_canon {e : Enc} {l1 l2 : List Comp} (h1 : ∀ x ∈ l1, canon e x)
    (h2 : ∀ y ∈ l2, canon e y) :
    l1.map (Comp.bytes e) <+: l2.map (Comp.bytes e) ↔ l1 <+: l2 := by
  refine ⟨fun h => ?_, fun h => h.map _⟩
  obtain ⟨l, hl, hm⟩ := List.prefix_map_iff.mp h
  rwa [map_bytes_inj_of_canon h1 (fun y hy => h2 y (hl.subset hy)) hm]

theorem map_suffix_iff_of_canon {e : Enc} {l1 l2 : List Comp} (h1 : ∀ x ∈ l1, canon e x)
    (h2 : ∀ y ∈ l2, canon e y) :
    l1.map (Comp.bytes e) <:+ l2.map (Comp.bytes e) ↔ l1 <:+ l2 := by
  rw [← List.reverse_prefix, ← List.map_reverse, ← List.map_reverse,
    map_prefix_iff_of_canon (fun x hx => h1 x (List.mem_reverse.mp hx))
      (fun y hy => h2 y (List.mem_reverse.mp hy)), List.reverse_prefix]

theorem canon.noPfx {e : Enc} {c : Comp} (h : canon e c) : c.isPfx = false := by
  cases c with
  | pfx p => exact h.elim
  | _ => rfl

theorem canon_compsT (e : Enc) {f : UInt8 → Bool} (hf : f e.sepByte = true) (k : Bool) (b : Bytes) :
    ∀ c ∈ compsT k true (toks f b), canon e c := by
  intro c hc
  rcases compsT_mem_wf (WFToks_toks f b) hc with rfl | rfl | rfl | ⟨s, rfl, _, h2, h3, h4⟩
  · trivial
  · trivial
  · trivial
  · refine ⟨h3, h4, fun hE => ?_⟩
    have := h2 e.sepByte (by rw [hE]; simp)
    rw [hf] at this
    cases this

theorem unix_comps_canon (b : Bytes) : ∀ c ∈ comps .unix b, canon .unix c := by
  rw [unix_comps_eq]
  exact canon_compsT .unix (f := usep) (by decide) false b

theorem starts_with_iff_of_canon {e : Enc} {p q : Bytes} (hp : ∀ c ∈ comps e p, canon e c)
    (hq : ∀ c ∈ comps e q, canon e c) : startsWithP e p q = true ↔ comps e q <+: comps e p :=
  (C10b.starts_with_iff_texts e p q).trans (map_prefix_iff_of_canon hq hp)

theorem ends_with_iff_of_canon {e : Enc} {p q : Bytes} (hp : ∀ c ∈ comps e p, canon e c)
    (hq : ∀ c ∈ comps e q, canon e c) : endsWithP e p q = true ↔ comps e q <:+ comps e p :=
  (C10b.ends_with_iff_texts e p q).trans (map_suffix_iff_of_canon hq hp)

end TP
