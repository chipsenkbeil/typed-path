/-
Lemmas/WinStable.lean — Windows paths WITH a prefix: when is the prefix parse stable under
replacing what follows the prefix.

`Stable p`: the prefix component `p` is parsed again, with the same raw text and payload, from
`p.raw ++ rest` for every `rest` the kind tolerates (`RestOK`: anything after a disk / verbatim
disk prefix; nothing or a separator after the others).  A prefix is stable when its text is
*closed* (`Closed`): nothing that may follow can still be drawn into it.  Those are the "complete"
prefixes (every disk, verbatim disk, device namespace; UNC / verbatim UNC with a non-empty share;
verbatim with a name other than `UNC`) and the share-less UNC forms whose separator is already
inside the prefix, the server not being `?`.  The others really are unstable: `\\server` + `\x` is
`\\server\x` = UNC(server, x); `\\?\` alone re-parses as UNC("?", ""); `\\?\UNC` + `\s` is a verbatim UNC.
All of it is read off the grammar `Shape` of Lemmas/WinPrefix.lean.  `WF` names the paths the
Windows theorems cover: those that do not start like a prefix, and those with a complete prefix.
-/
import TypedPathVerif.Lemmas.PfxStart
import TypedPathVerif.Lemmas.WinPrefix
import TypedPathVerif.Spec.JoinRules

namespace TP.Win

open JoinRules

/-- what may follow the raw prefix text without changing how the prefix parses.  A disk or verbatim
disk prefix ends in `:`, and no later byte can extend it: anything may follow.  The text of every
other kind can still grow — a non-separator byte next would be drawn into its last field — so what
follows is empty or begins with a separator. -/
def RestOK (p : PrefixComp) (rest : Bytes) : Prop :=
  match p.kind with
  | .disk _ => True
  | .verbatimDisk _ => True
  | _ => HeadOK (wsep (normOf p.raw)) rest

/-- the prefix parse does not depend on what (tolerated) bytes follow the prefix.  The second
conjunct — the `\\?\` test answers the same on the whole path as on the prefix text — fixes the
separator set and the `.` rule of the body; it follows from the first (`normOf_raw`). -/
def Stable (p : PrefixComp) : Prop :=
  ∀ rest, RestOK p rest →
    parsePrefixComp (p.raw ++ rest) = some (p, rest) ∧
    startsWith (p.raw ++ rest) VERB = startsWith p.raw VERB

/-- "complete" prefixes: a UNC / verbatim UNC prefix has a share, a verbatim prefix has a name
other than `UNC` (DESIGN §2.3 "well-formed") -/
def Complete : WPrefix → Prop
  | .verbatim name => name ≠ [] ∧ name ≠ UNCNAME
  | .verbatimUNC _ sh => sh ≠ []
  | .unc _ sh => sh ≠ []
  | _ => True

/-- the covered Windows paths (DESIGN §11.2): no prefix-like start at all, or a complete prefix -/
def WF (b : Bytes) : Prop :=
  C16.pfxStart b = false ∨ ∃ p rest, parsePrefixComp b = some (p, rest) ∧ Complete p.kind

/-! ### what follows a prefix -/

theorem restOK_nil (p : PrefixComp) : RestOK p [] := by
  unfold RestOK
  cases p.kind <;> trivial

theorem restOK_bslash (p : PrefixComp) (t : Bytes) : RestOK p (BSLASH :: t) := by
  unfold RestOK
  cases p.kind <;> first | trivial | exact wsep_bslash _

theorem restOK_prefix {p : PrefixComp} {x y : Bytes} (h : RestOK p (x ++ y)) : RestOK p x := by
  cases x with
  | nil => exact restOK_nil p
  | cons a t => exact h

theorem restOK_same_front {p : PrefixComp} {C : Bytes} (t t' : Bytes) (hC : C ≠ [])
    (h : RestOK p (C ++ t)) : RestOK p (C ++ t') := by
  obtain ⟨raw, kind⟩ := p
  cases C with
  | nil => exact absurd rfl hC
  | cons c C' => cases kind <;> exact h

theorem restOK_of_headOK {p : PrefixComp} {R : Bytes}
    (h : (∀ d, p.kind ≠ .disk d) → HeadOK (wsep (normOf p.raw)) R) : RestOK p R := by
  unfold RestOK
  split
  · trivial
  · trivial
  · rename_i hnd _
    exact h hnd

theorem headOK_of_restOK {p : PrefixComp} {R : Bytes} (hok : RestOK p R) (hnd : ∀ d, p.kind ≠ .disk d)
    (hnv : ∀ d, p.kind ≠ .verbatimDisk d) : HeadOK (wsep (normOf p.raw)) R := by
  unfold RestOK at hok
  cases hk : p.kind with
  | disk d => exact absurd hk (hnd d)
  | verbatimDisk d => exact absurd hk (hnv d)
  | _ =>
    rw [hk] at hok
    exact hok

theorem restOK_of_parse {b rest : Bytes} {p : PrefixComp} (h : parsePrefixComp b = some (p, rest)) :
    RestOK p rest := by
  obtain ⟨raw, k⟩ := p
  have hs : Shape raw k rest := (parsePrefixComp_iff.mp h).2
  cases hs with
  | disk _ => trivial
  | verbatimDisk _ _ _ _ => trivial
  | deviceNS _ _ _ hf =>
    refine restOK_of_headOK fun _ => ?_
    rw [normOf_dot]
    exact hf.2.2
  | verbatimUNC _ _ _ _ hw =>
    refine restOK_of_headOK fun _ => ?_
    rw [normOf_hdr]
    exact hw.headOK
  | verbatim _ _ _ hf _ _ =>
    refine restOK_of_headOK fun _ => ?_
    rw [normOf_hdr]
    exact hf.2.2
  | verbatimEmpty _ _ _ hx => exact hx
  | unc h1 h2 hw hq hd =>
    rename_i sv _
    by_cases hsv : sv = [QMARK]
    · rw [(hq hsv).2]
      exact restOK_nil _
    · refine restOK_of_headOK fun _ => ?_
      rw [(Shape.unc h1 h2 hw hq hd).normOf_unc hsv]
      exact hw.headOK

theorem restOK_of_complete {b rest : Bytes} {p : PrefixComp}
    (h : parsePrefixComp b = some (p, rest)) (_ : Complete p.kind) : RestOK p rest :=
  restOK_of_parse h

/-! ### the raw text of a non-verbatim prefix -/

theorem Shape.raw_ne_nil {raw rest : Bytes} {k : WPrefix} (h : Shape raw k rest) : raw ≠ [] := by
  cases h <;> exact List.cons_ne_nil _ _

theorem Stable.raw_ne_nil {p : PrefixComp} (hs : Stable p) : p.raw ≠ [] :=
  (parsePrefixComp_iff.mp (hs [] (restOK_nil p)).1).2.raw_ne_nil

theorem normOf_raw_of_complete {b rest : Bytes} {p : PrefixComp} (h : parsePrefixComp b = some (p, rest))
    (hc : Complete p.kind) (ht : isVerbatimKind p.kind = false) : normOf p.raw = true := by
  obtain ⟨raw, k⟩ := p
  have hs : Shape raw k rest := (parsePrefixComp_iff.mp h).2
  cases hs with
  | disk hd => simp only [normOf, startsWith_alpha hd, Bool.not_false]
  | unc h1 h2 hw hq hd => exact (Shape.unc h1 h2 hw hq hd).normOf_unc fun e => hc (hq e).1
  | deviceNS _ _ _ _ => exact normOf_dot ..
  | verbatimDisk _ _ _ _ => cases ht
  | verbatimUNC _ _ _ _ _ => cases ht
  | verbatim _ _ _ _ _ _ => cases ht
  | verbatimEmpty _ _ _ _ => cases ht

theorem headOK_of_not_disk {b rest : Bytes} {p : PrefixComp} (hp : parsePrefixComp b = some (p, rest))
    (hc : Complete p.kind) (hnv : isVerbatimKind p.kind = false) (hnd : ∀ d, p.kind ≠ .disk d) :
    HeadOK (wsep true) rest := by
  have h := headOK_of_restOK (restOK_of_parse hp) hnd fun d hd => by
    rw [hd] at hnv
    cases hnv
  rwa [normOf_raw_of_complete hp hc hnv] at h

theorem endsWithSep_append_field {pre l r : Bytes} (hf : Field true l r) : endsWithSep (pre ++ l) = false := by
  obtain ⟨y, hy⟩ : ∃ y, l.getLast? = some y := by
    cases hl : l.getLast? with
    | none => exact absurd (List.getLast?_eq_none_iff.mp hl) hf.1
    | some y => exact ⟨y, rfl⟩
  have hs : anySep y = false := hf.2.1 y (List.mem_of_getLast? hy)
  have hb : y ≠ BSLASH := fun e => by
    rw [e] at hs
    cases hs
  have hsl : y ≠ SLASH := fun e => by
    rw [e] at hs
    cases hs
  simp [endsWithSep, List.getLast?_append, hy, hb, hsl]

/-- the text of a device-namespace prefix, and of a UNC prefix with a share, ends with a byte of its last
field -/
theorem endsWithSep_raw_of_complete {b rest : Bytes} {p : PrefixComp} (h : parsePrefixComp b = some (p, rest))
    (hc : Complete p.kind) (ht : isVerbatimKind p.kind = false) (hnd : ∀ d, p.kind ≠ .disk d) :
    endsWithSep p.raw = false := by
  obtain ⟨raw, k⟩ := p
  have hs : Shape raw k rest := (parsePrefixComp_iff.mp h).2
  cases hs with
  | disk _ => exact absurd rfl (hnd _)
  | deviceNS _ _ _ hf => exact endsWithSep_append_field (pre := [_, _, _, _]) hf
  | unc h1 h2 hw hq hd =>
    rename_i s1 s2 w sv sh
    cases hw with
    | share hsv hsh =>
      rename_i x
      have := endsWithSep_append_field (pre := s1 :: s2 :: (sv ++ [x])) hsh
      rwa [List.cons_append, List.cons_append, List.append_assoc] at this
    | bare _ => exact absurd rfl hc
    | sep _ _ => exact absurd rfl hc
  | verbatimDisk _ _ _ _ => cases ht
  | verbatimUNC _ _ _ _ _ => cases ht
  | verbatim _ _ _ _ _ _ => cases ht
  | verbatimEmpty _ _ _ _ => cases ht

/-! ### which prefixes are stable -/

/-- the prefix text is closed: nothing that may follow it can be drawn into the prefix.  For the share-less
UNC forms that is the case when the separator after the server is already part of the text: the
text of `\\?\UNC\server\` has the lead-in (4), `UNC` (3) and a separator, = 8, then the server and one
more separator; that of `\\server\` two separators, the server and one more separator. -/
def Closed (raw : Bytes) : WPrefix → Prop
  | .verbatim name => name ≠ [] ∧ name ≠ UNCNAME
  | .verbatimUNC sv sh => sh ≠ [] ∨ raw.length = 8 + sv.length + 1
  | .unc sv sh => sh ≠ [] ∨ (raw.length = 2 + sv.length + 1 ∧ sv ≠ [QMARK])
  | _ => True

theorem Complete.closed {k : WPrefix} (h : Complete k) (raw : Bytes) : Closed raw k := by
  cases k <;> first | exact h | exact .inl h

theorem SrvShr.stable {n : Bool} {w sv sh rest rest' : Bytes} (h : SrvShr n w sv sh rest)
    (hc : sh ≠ [] ∨ w.length = sv.length + 1) (hr : HeadOK (wsep n) rest') : SrvShr n w sv sh rest' := by
  cases h with
  | share hsv hsh => exact .share hsv ⟨hsh.1, hsh.2.1, hr⟩
  | bare _ => exact hc.elim (absurd rfl) fun e => absurd e (Nat.ne_of_lt (Nat.lt_succ_self _))
  | sep hsv _ => exact .sep hsv hr

theorem Shape.stable {raw rest rest' : Bytes} {k : WPrefix} (h : Shape raw k rest) (hc : Closed raw k)
    (hr : RestOK ⟨raw, k⟩ rest') : Shape raw k rest' := by
  cases h with
  | disk hd => exact .disk hd
  | verbatimDisk h1 h2 h3 hd => exact .verbatimDisk h1 h2 h3 hd
  | deviceNS h1 h2 h3 hf =>
    have hr : HeadOK (wsep (normOf _)) rest' := hr
    rw [normOf_dot] at hr
    exact .deviceNS h1 h2 h3 ⟨hf.1, hf.2.1, hr⟩
  | verbatimUNC h1 h2 h3 hx0 hw =>
    have hr : HeadOK (wsep (normOf _)) rest' := hr
    rw [normOf_hdr] at hr
    refine .verbatimUNC h1 h2 h3 hx0 (hw.stable (hc.imp_right fun e => ?_) hr)
    simp only [List.length_cons] at e
    omega
  | verbatim h1 h2 h3 hf hlc _ =>
    have hr : HeadOK (wsep (normOf _)) rest' := hr
    rw [normOf_hdr] at hr
    exact .verbatim h1 h2 h3 ⟨hf.1, hf.2.1, hr⟩ hlc fun e => absurd e hc.2
  | verbatimEmpty _ _ _ _ => exact absurd rfl hc.1
  | unc h1 h2 hw hq hd =>
    have hsv : _ ≠ [QMARK] := fun e => hc.elim (fun hc => hc (hq e).1) (fun hc => hc.2 e)
    have hn := (Shape.unc h1 h2 hw hq hd).normOf_unc hsv
    refine .unc h1 h2 (hw.stable (hc.imp_right fun e => ?_) ?_) (fun e => absurd e hsv) hd
    · simp only [List.length_cons] at e
      omega
    · have : HeadOK (wsep (normOf _)) rest' := hr
      rwa [hn] at this

theorem stable_of_closed {b rest : Bytes} {p : PrefixComp}
    (h : parsePrefixComp b = some (p, rest)) (hc : Closed p.raw p.kind) : Stable p := fun _ hr =>
  have hs := (parsePrefixComp_iff.mp h).2.stable hc hr
  ⟨parsePrefixComp_iff.mpr ⟨rfl, hs⟩, hs.startsWith_append⟩

/-- **Every complete prefix the parser returns is stable**: it is parsed again, identically, from
its raw text followed by anything the kind tolerates. -/
theorem stable_of_complete {b rest : Bytes} {p : PrefixComp}
    (h : parsePrefixComp b = some (p, rest)) (hc : Complete p.kind) : Stable p :=
  stable_of_closed h (hc.closed _)

/-- the incomplete prefixes really are unstable -/
example : parsePrefix [92, 92, 115] = some (.unc [115] [], []) ∧
    parsePrefix ([92, 92, 115] ++ [92, 120]) = some (.unc [115] [120], []) := by decide +kernel
example : parsePrefix [92, 92, 63, 92, 92, 97] = some (.verbatim [], [92, 97]) ∧
    parsePrefix [92, 92, 63, 92] = some (.unc [63] [], []) := by decide +kernel
example : parsePrefix [92, 92, 63, 92, 85, 78, 67] = some (.verbatim [85, 78, 67], []) ∧
    parsePrefix ([92, 92, 63, 92, 85, 78, 67] ++ [92, 115]) = some (.verbatimUNC [115] [], []) := by decide +kernel

/-! ### the field parsers' `_iff`s, one direction at a time -/

theorem takeNormal_some {norm : Bool} {b n r : Bytes} (h : takeNormal norm b = some (n, r)) :
    b = n ++ r ∧ n ≠ [] ∧ (∀ y ∈ n, wsep norm y = false) ∧ HeadOK (wsep norm) r :=
  takeNormal_iff.mp h

theorem takeNormal_mk (norm : Bool) (n r : Bytes) (h2 : n ≠ []) (h3 : ∀ y ∈ n, wsep norm y = false)
    (h4 : HeadOK (wsep norm) r) : takeNormal norm (n ++ r) = some (n, r) :=
  takeNormal_iff.mpr ⟨rfl, h2, h3, h4⟩

theorem takeNormal_isSome_of_head {norm : Bool} {y : UInt8} (t : Bytes) (h : wsep norm y = false) :
    (takeNormal norm (y :: t)).isSome = true := by
  cases ht : takeNormal norm (y :: t) with
  | some _ => rfl
  | none => exact absurd (takeNormal_none_iff.mp ht) (Bool.eq_false_iff.mp h)

theorem takeUNC_some {b r : Bytes} (h : takeUNC b = some r) : b = 85 :: 78 :: 67 :: r :=
  takeUNC_iff.mp h

theorem takeSep_some {norm : Bool} {b r : Bytes} (h : takeSep norm b = some r) :
    ∃ x, b = x :: r ∧ wsep norm x = true :=
  takeSep_iff.mp h

end TP.Win
