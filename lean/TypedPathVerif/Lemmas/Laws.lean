/-
Lemmas/Laws.lean — the structural laws of the double-ended parser (DESIGN.md §4.3):
(F) a front step peels the head of `comps`, (B) a back step peels its last element,
(E) the two ends fail together, plus the state invariant they need.

Each law is proved on tokens first, against the closed form `compsT`; on tokens (B) and (E) hold
for every token list, only the front parser needs the invariant.  A state then denotes
`PState.closed`, its pending prefix followed by `compsT` of its tokens read as a fresh path, and the
four step lemmas (`nextFront_closed`, `nextFront_none_iff`, `nextBack_closed`,
`nextBack_none_iff`) carry the token laws to states.
-/
import TypedPathVerif.Lemmas.CompsT

namespace TP

theorem comps_unfold (s : PState) :
    s.comps = match s.nextFront with
      | none => []
      | some (c, s') => c :: s'.comps := by
  rw [PState.comps]
  split <;> simp_all

theorem compsBack_unfold (s : PState) :
    s.compsBack = match s.nextBack with
      | none => []
      | some (c, s') => c :: s'.compsBack := by
  rw [PState.compsBack]
  split <;> simp_all

/-- (F) -/
theorem front_comps {s s' : PState} {c : Comp} (h : s.nextFront = some (c, s')) :
    s.comps = c :: s'.comps := by
  rw [comps_unfold, h]

theorem comps_nil_iff_front_none {s : PState} : s.comps = [] ↔ s.nextFront = none := by
  rw [comps_unfold]
  cases s.nextFront <;> simp

theorem comps_of_front_none {s : PState} (h : s.nextFront = none) : s.comps = [] :=
  comps_nil_iff_front_none.mpr h

/-- State invariant: once past the beginning, the remaining tokens never start with junk
(`move_front_to_next` ran after every front step, and back steps only shorten from the right). -/
def PState.Inv (s : PState) : Prop := s.atBeg = true ∨ noLeadJunk s.k s.toks

/-! ### the laws on tokens -/

theorem frontT_of_inv {k atBeg : Bool} {t : Tok} {r : List Tok} (hi : atBeg = true ∨ noLeadJunk k (t :: r)) :
    frontT k atBeg (t :: r) = some (headComp t, skipFront k r) := by
  cases atBeg with
  | true => exact frontT_cons_true k t r
  | false =>
    have hn : noLeadJunk k (t :: r) := hi.resolve_left (by simp)
    cases t with
    | sep x => cases hn
    | seg s => exact congrArg (fun c => some (c, skipFront k r)) (segComp_of_not_junk hn).symm

/-- (F) on tokens -/
theorem frontT_comps {k atBeg : Bool} {ts ts' : List Tok} {c : Comp}
    (hi : atBeg = true ∨ noLeadJunk k ts) (h : frontT k atBeg ts = some (c, ts')) :
    compsT k true ts = c :: compsT k true ts' ∧ noLeadJunk k ts' := by
  cases ts with
  | nil => cases h
  | cons t r =>
    rw [frontT_of_inv hi] at h
    cases h
    refine ⟨?_, noLeadJunk_skipFront k r⟩
    rw [compsT_true_cons, ← compsT_of_inv (atBeg := false) (.inr (noLeadJunk_skipFront k r)), compsT_false,
      body_skipFront]

theorem frontT_none_iff {k atBeg : Bool} {ts : List Tok} (hi : atBeg = true ∨ noLeadJunk k ts) :
    frontT k atBeg ts = none ↔ ts = [] := by
  cases ts with
  | nil => simp [frontT]
  | cons t r => simp [frontT_of_inv hi]

/-- (B) on tokens -/
theorem backT_comps {k atBeg : Bool} {ts ts' : List Tok} {c : Comp}
    (h : backT k atBeg ts = some (c, ts')) : compsT k atBeg ts = compsT k atBeg ts' ++ [c] := by
  rcases backT_cases h with ⟨rfl, rfl, t, r, rfl, rfl, hj⟩ | ⟨r, s, j, rfl, hs, hj, rfl, rfl⟩
  · simp [compsT_true_cons, body_all_junk (fun x hx => hj x (List.mem_cons_of_mem _ hx))]
  · rw [compsT_lastSeg r hs hj, compsT_trimBack, segComp_of_not_junk hs]

/-- (E) on tokens -/
theorem backT_none_iff {k atBeg : Bool} {ts : List Tok} :
    backT k atBeg ts = none ↔ compsT k atBeg ts = [] := by
  rcases junk_or_lastSeg k ts with hj | ⟨r, s, j, rfl, hs, hj⟩
  · rw [backT_all_junk hj]
    cases atBeg with
    | false => simp [compsT_false, body_all_junk hj]
    | true => cases ts <;> simp [compsT_true_cons]
  · simp [backT_lastSeg r hs hj, compsT_lastSeg r hs hj]

theorem backT_inv {k atBeg : Bool} {ts ts' : List Tok} {c : Comp}
    (hi : atBeg = true ∨ noLeadJunk k ts) (h : backT k atBeg ts = some (c, ts')) :
    atBeg = true ∨ noLeadJunk k ts' := by
  obtain ⟨q, rfl⟩ := backT_prefix h
  exact hi.imp id noLeadJunk_of_append

/-! ### what a state denotes, and the four step lemmas -/

/-- the components a state still has to yield, read off its tokens -/
def PState.closed (s : PState) : List Comp := (s.pre.map Comp.pfx).toList ++ compsT s.k true s.toks

theorem PState.closed_eq_nil {s : PState} : s.closed = [] ↔ s.pre = none ∧ s.toks = [] := by
  cases hp : s.pre <;> simp [PState.closed, hp, compsT_true_eq_nil]

theorem nextFront_closed {s s' : PState} {c : Comp} (hi : s.Inv) (h : s.nextFront = some (c, s')) :
    s.closed = c :: s'.closed ∧ s'.Inv := by
  rcases nextFront_cases h with ⟨p, hp, rfl, rfl⟩ | ⟨ts', hp, hf, rfl⟩
  · exact ⟨by simp [PState.closed, hp], hi⟩
  · obtain ⟨h1, h2⟩ := frontT_comps hi hf
    exact ⟨by simp [PState.closed, hp, h1], .inr h2⟩

theorem nextFront_none_iff {s : PState} (hi : s.Inv) :
    s.nextFront = none ↔ s.pre = none ∧ s.toks = [] := by
  unfold PState.nextFront
  cases hp : s.pre with
  | some p => simp
  | none =>
    rw [← frontT_none_iff hi]
    cases frontT s.k s.atBeg s.toks <;> simp

theorem nextBack_closed {s s' : PState} {c : Comp} (hi : s.Inv) (h : s.nextBack = some (c, s')) :
    s.closed = s'.closed ++ [c] ∧ s'.Inv := by
  rcases nextBack_cases h with ⟨ts', _, hb, rfl⟩ | ⟨p, hts, hp, rfl, rfl⟩
  · have hi' := backT_inv hi hb
    refine ⟨?_, hi'⟩
    simp only [PState.closed]
    rw [← compsT_of_inv hi, ← compsT_of_inv hi', backT_comps hb, List.append_assoc]
  · exact ⟨by simp [PState.closed, hp, hts], hi⟩

theorem nextBack_none_iff {s : PState} (hi : s.Inv) :
    s.nextBack = none ↔ s.pre = none ∧ s.toks = [] := by
  by_cases hne : s.toks = []
  · unfold PState.nextBack
    cases hp : s.pre <;> simp [hne]
  · -- tokens are left: under the invariant they hold a component, so the back parser finds one
    rw [nextBack_of_toks hne, Option.map_eq_none_iff, backT_none_iff, compsT_of_inv hi, compsT_true_eq_nil]
    exact ⟨fun h => absurd h hne, fun h => h.2⟩

theorem comps_eq_closed (s : PState) (hi : s.Inv) : s.comps = s.closed := by
  induction s using PState.comps.induct with
  | case1 s h => rw [comps_of_front_none h, PState.closed_eq_nil.mpr ((nextFront_none_iff hi).mp h)]
  | case2 s c s' h ih =>
    obtain ⟨h1, h2⟩ := nextFront_closed hi h
    rw [front_comps h, ih h2, h1]

/-- `comps_eq_closed` with `closed` written out and the flag as it stands.  Stays in front of
`PState.preList_def`, whose statement mentions the matcher this `match` creates. -/
theorem comps_closed (s : PState) (h : s.Inv) :
    s.comps = (match s.pre with | some p => [Comp.pfx p] | none => []) ++ compsT s.k s.atBeg s.toks := by
  rw [comps_eq_closed s h, compsT_of_inv h, PState.closed]
  cases s.pre <;> rfl

theorem PState.preList_def (s : PState) :
    (match s.pre with | some p => [Comp.pfx p] | none => ([] : List Comp)) =
      (match s.pre with | some p => [Comp.pfx p] | none => []) := rfl

/-- (B): a successful back step removes exactly the last forward component. -/
theorem back_comps {s s' : PState} {c : Comp} (hi : s.Inv) (h : s.nextBack = some (c, s')) :
    s.comps = s'.comps ++ [c] ∧ s'.Inv := by
  obtain ⟨h1, h2⟩ := nextBack_closed hi h
  exact ⟨by rw [comps_eq_closed s hi, comps_eq_closed s' h2, h1], h2⟩

/-- (E) -/
theorem front_none_iff_back_none {s : PState} (hi : s.Inv) :
    s.nextFront = none ↔ s.nextBack = none := by
  rw [nextFront_none_iff hi, nextBack_none_iff hi]

theorem compsBack_eq_reverse (s : PState) (hi : s.Inv) : s.compsBack = s.comps.reverse := by
  induction s using PState.compsBack.induct with
  | case1 s h =>
    rw [compsBack_unfold, h, comps_of_front_none ((front_none_iff_back_none hi).mpr h)]
    rfl
  | case2 s c s' h ih =>
    obtain ⟨h1, h2⟩ := back_comps hi h
    rw [compsBack_unfold, h, h1]
    simp [ih h2]

/-! ### Interleavings -/

/-- run a sequence of steps (`true` = from the back); a failed step leaves the state as it is -/
def runSteps (s : PState) : List Bool → List (Option Comp) × PState
  | [] => ([], s)
  | b :: bs =>
    match (if b then s.nextBack else s.nextFront) with
    | some (c, s') => let r := runSteps s' bs; (some c :: r.1, r.2)
    | none => let r := runSteps s bs; (none :: r.1, r.2)

/-- the same on a plain list: take from either end -/
def takeSteps (l : List Comp) : List Bool → List (Option Comp) × List Comp
  | [] => ([], l)
  | b :: bs =>
    if b then
      match l.getLast? with
      | some c => let r := takeSteps l.dropLast bs; (some c :: r.1, r.2)
      | none => let r := takeSteps l bs; (none :: r.1, r.2)
    else
      match l with
      | c :: t => let r := takeSteps t bs; (some c :: r.1, r.2)
      | [] => let r := takeSteps [] bs; (none :: r.1, r.2)

theorem runSteps_keeps {P : PState → Prop}
    (hf : ∀ {s s' : PState} {c : Comp}, s.nextFront = some (c, s') → P s → P s')
    (hb : ∀ {s s' : PState} {c : Comp}, s.nextBack = some (c, s') → P s → P s') :
    ∀ (steps : List Bool) (s : PState), P s → P (runSteps s steps).2
  | [], _, h => h
  | b :: bs, s, h => by
    simp only [runSteps]
    cases hs : (if b = true then s.nextBack else s.nextFront) with
    | none => exact runSteps_keeps hf hb bs s h
    | some r =>
      refine runSteps_keeps hf hb bs r.2 ?_
      cases b with
      | true => exact hb hs h
      | false => exact hf hs h

/-- Every interleaving of front and back steps yields, step by step, exactly what taking
from the corresponding end of the forward component list yields; afterwards the untouched
middle is what forward iteration of the remaining state gives. -/
theorem runSteps_eq_takeSteps (steps : List Bool) : ∀ (s : PState), s.Inv →
    (runSteps s steps).1 = (takeSteps s.comps steps).1 ∧
    (runSteps s steps).2.comps = (takeSteps s.comps steps).2 ∧ (runSteps s steps).2.Inv := by
  induction steps with
  | nil => intro s hi; exact ⟨rfl, rfl, hi⟩
  | cons b bs ih =>
    intro s hi
    cases b with
    | false =>
      simp only [runSteps, takeSteps, Bool.false_eq_true, if_false]
      cases hf : s.nextFront with
      | none =>
        have hc := comps_of_front_none hf
        simp only [hc]
        have := ih s hi
        rw [hc] at this
        exact ⟨by simp [this.1], this.2.1, this.2.2⟩
      | some r =>
        obtain ⟨c, s'⟩ := r
        have hc := front_comps hf
        have hi' := (nextFront_closed hi hf).2
        simp only [hc]
        have := ih s' hi'
        exact ⟨by simp [this.1], this.2.1, this.2.2⟩
    | true =>
      simp only [runSteps, takeSteps, if_true]
      cases hb : s.nextBack with
      | none =>
        have hf := (front_none_iff_back_none hi).mpr hb
        have hc := comps_of_front_none hf
        simp only [hc, List.getLast?_nil]
        have := ih s hi
        rw [hc] at this
        exact ⟨by simp [this.1], this.2.1, this.2.2⟩
      | some r =>
        obtain ⟨c, s'⟩ := r
        obtain ⟨hc, hi'⟩ := back_comps hi hb
        simp only [hc, List.getLast?_append, List.getLast?_singleton, Option.some_or,
          List.dropLast_concat]
        have := ih s' hi'
        exact ⟨by simp [this.1], this.2.1, this.2.2⟩

end TP
