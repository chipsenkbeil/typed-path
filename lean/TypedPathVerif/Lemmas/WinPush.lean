/-
Lemmas/WinPush.lean — `WindowsEncoding::push` on bytes.  The queries `push` asks of its two arguments
(`wPrefix`, `wHasPrefix`, `wPrefixLen`, `wHasAnyVerbatimPrefix`, `wIsOnlyDisk`, `hasRoot`) run the
component parser; each equals a function of `parsePrefixComp` of the bytes (`JoinRules.prefixOf`).
With them `push` is a five-way case split on the bytes (`windowsPush_eq`), stated once more branch by
branch.
-/
import TypedPathVerif.Spec.JoinRules
import TypedPathVerif.Lemmas.EncNew
import TypedPathVerif.Lemmas.PfxStart

namespace TP.C08

open JoinRules

theorem nextFront_noPre (ts : List Tok) (k : Bool) :
    PState.nextFront { pre := none, toks := ts, atBeg := true, k := k } =
      match ts with
      | [] => none
      | t :: r => some (headComp t, { pre := none, toks := skipFront k r, atBeg := false, k := k }) := by
  cases ts with
  | nil => simp [PState.nextFront, frontT]
  | cons t r => simp [PState.nextFront, frontT_cons_true]

theorem wPrefix_eq (b : Bytes) : wPrefix b = prefixOf b := by
  unfold wPrefix prefixOf
  cases h : parsePrefixComp b with
  | none =>
    rw [new_of_no_prefix h, nextFront_noPre]
    cases toks (wsep true) b with
    | nil => rfl
    | cons t r =>
      simp only [Option.map_none]
      have := headComp_ne_pfx t
      cases hc : headComp t with
      | pfx p => exact absurd hc (this p)
      | _ => rfl
  | some x =>
    rw [new_of_parse h]
    rfl

theorem wHasPrefix_eq (b : Bytes) : wHasPrefix b = (prefixOf b).isSome := by
  unfold wHasPrefix
  rw [wPrefix_eq]

theorem wPrefixLen_eq (b : Bytes) : wPrefixLen b = (rawPrefix b).length := by
  unfold wPrefixLen rawPrefix
  rw [wPrefix_eq]
  cases prefixOf b <;> rfl

theorem wHasAnyVerbatim_eq (a : Bytes) : wHasAnyVerbatimPrefix a = baseIsVerbatim a := by
  unfold wHasAnyVerbatimPrefix wPrefixKind baseIsVerbatim
  rw [wPrefix_eq]
  cases prefixOf a with
  | none => rfl
  | some p =>
    simp only [Option.map_some]
    cases hk : p.kind <;> simp only [isVerbatimKind, WPrefix.tag] <;> decide

theorem isAbsolute_imp_prefix (b : Bytes) (h : isAbsolute .windows b = true) : (prefixOf b).isSome = true := by
  rw [← wHasPrefix_eq]
  unfold wHasPrefix wPrefix
  simp only [isAbsolute] at h
  cases hn : (Enc.new .windows b).nextFront with
  | none => simp [hn] at h
  | some r =>
    obtain ⟨c, s⟩ := r
    cases c <;> simp [hn] at h ⊢

theorem isAbsolute_false_of_pf (p : Bytes) (hp : C16.pfxStart p = false) : isAbsolute .windows p = false := by
  -- an absolute path has a prefix; a path that does not start like one has none
  cases h : isAbsolute .windows p with
  | false => rfl
  | true => exact absurd (isAbsolute_imp_prefix p h) (by simp [Win.prefixOf_none_of_pf p hp])

theorem hasRoot_no_prefix (b : Bytes) (h : (prefixOf b).isSome = false) :
    hasRoot .windows b = startsWithSep b := by
  have hp : parsePrefixComp b = none := by
    cases hp : parsePrefixComp b with
    | none => rfl
    | some x =>
      rw [prefixOf, hp] at h
      cases h
  simp only [hasRoot]
  rw [new_of_no_prefix hp, nextFront_noPre]
  cases b with
  | nil => rfl
  | cons x t =>
    cases hx : wsep true x with
    | true =>
      rw [toks_cons_sep t hx]
      exact hx.symm
    | false =>
      -- a segment is never a root
      rw [toks_cons_not_sep t hx]
      generalize x :: firstSeg (toks (wsep true) t) = s
      have hp := headComp_ne_pfx (.seg s)
      simp only [headComp] at hp ⊢
      cases hc : segComp true s with
      | root => exact absurd hc (segComp_ne true s).1
      | pfx q => exact absurd hc (hp q)
      | _ => exact hx.symm

theorem wIsOnlyDisk_eq (a : Bytes) : wIsOnlyDisk a = isBareDrive a := by
  unfold wIsOnlyDisk isBareDrive wHasKindIn wPrefixKind
  rw [wPrefix_eq, prefixOf]
  cases h1 : parsePrefixComp a with
  | none => rfl
  | some x =>
    obtain ⟨p, rest⟩ := x
    rw [new_of_parse h1]
    -- behind the prefix the iterator is exhausted exactly when nothing follows the prefix text
    have hnone : (⟨none, toks (wsep (Win.normOf p.raw)) rest, true, !Win.normOf p.raw⟩ : PState).nextFront.isNone =
        decide (a = p.raw) := by
      rw [Bool.eq_iff_iff, Option.isNone_iff_eq_none, nextFront_none_iff (Or.inl rfl), decide_eq_true_eq,
        ← parsePrefixComp_raw h1, toks_eq_nil_iff, List.append_right_eq_self]
      exact and_iff_right rfl
    rw [show (⟨some p, toks (wsep (Win.normOf p.raw)) rest, true, !Win.normOf p.raw⟩ : PState).nextFront =
      some (.pfx p, ⟨none, toks (wsep (Win.normOf p.raw)) rest, true, !Win.normOf p.raw⟩) from rfl]
    simp only [Option.map_some, hnone]
    cases p.kind <;> rfl

theorem prefixOf_some {a : Bytes} {p : PrefixComp} (h : prefixOf a = some p) : ∃ rest, p.raw ++ rest = a := by
  unfold prefixOf at h
  cases hpc : parsePrefixComp a with
  | none => simp [hpc] at h
  | some x =>
    obtain ⟨p', rest⟩ := x
    simp only [hpc, Option.map_some, Option.some.injEq] at h
    subst h
    exact ⟨rest, parsePrefixComp_raw hpc⟩

theorem rawPrefix_is_prefix (a : Bytes) : ∃ rest, rawPrefix a ++ rest = a := by
  unfold rawPrefix
  cases h : prefixOf a with
  | none => exact ⟨a, rfl⟩
  | some p => exact prefixOf_some h

/-- `push` with its queries read off the parsed prefixes: the five branches of
`WindowsEncoding::push` -/
theorem windowsPush_eq (a b : Bytes) :
    windowsPush a b =
      if b = [] then a
      else if (prefixOf b).isSome = true then b
      else if baseIsVerbatim a = true then
        verbatimRender false (verbatimFold (comps .windows a) (comps .windows b))
      else if startsWithSep b = true then rawPrefix a ++ b
      else if a = [] ∨ endsWithSep a = true ∨ isBareDrive a = true then a ++ b else a ++ [BSLASH] ++ b := by
  unfold windowsPush
  by_cases hb : b = []
  · rw [if_pos hb, if_pos hb]
  rw [if_neg hb, if_neg hb, wHasPrefix_eq]
  by_cases hp : (prefixOf b).isSome = true
  · rw [hp, Bool.or_true, if_pos rfl, if_pos rfl]
  -- an absolute path has a prefix, so the first test is the second
  have hna : isAbsolute .windows b = false := by
    cases ha : isAbsolute .windows b with
    | false => rfl
    | true => exact absurd (isAbsolute_imp_prefix b ha) hp
  rw [hna, Bool.false_or, if_neg hp, if_neg hp, wHasAnyVerbatim_eq, hasRoot_no_prefix b (by simpa using hp),
    wPrefixLen_eq, wIsOnlyDisk_eq]
  have htake : a.take (rawPrefix a).length = rawPrefix a := by
    obtain ⟨rest, hrest⟩ := rawPrefix_is_prefix a
    generalize rawPrefix a = P at hrest
    rw [← hrest, List.take_left']
    rfl
  -- "needs a separator" is the negation of the three documented exceptions
  have hsep : ((a ≠ [] ∧ a.getLast? ≠ some BSLASH ∧ a.getLast? ≠ some SLASH) ∧ ¬isBareDrive a = true) ↔
      ¬(a = [] ∨ endsWithSep a = true ∨ isBareDrive a = true) := by
    simp [endsWithSep, not_or, and_assoc]
  rw [htake]
  simp only [hsep, ite_not]

theorem windowsPush_of_prefix {a q : Bytes} (hpq : (prefixOf q).isSome = true) : windowsPush a q = q := by
  have hq : q ≠ [] := by
    rintro rfl
    cases hpq
  rw [windowsPush_eq, if_neg hq, if_pos hpq]

theorem windowsPush_verbatim {a q : Bytes} (hq : q ≠ []) (hpq : prefixOf q = none)
    (hv : baseIsVerbatim a = true) :
    windowsPush a q = verbatimRender false (verbatimFold (comps .windows a) (comps .windows q)) := by
  rw [windowsPush_eq, if_neg hq, hpq, if_neg (by simp), if_pos hv]

theorem windowsPush_rooted {a q : Bytes} (hpq : prefixOf q = none)
    (hv : baseIsVerbatim a = false) (hr : startsWithSep q = true) : windowsPush a q = rawPrefix a ++ q := by
  have hq : q ≠ [] := by
    rintro rfl
    cases hr
  rw [windowsPush_eq, if_neg hq, hpq, if_neg (by simp), hv, if_neg (by simp), if_pos hr]

theorem windowsPush_append {a q : Bytes} (hq : q ≠ []) (hpq : prefixOf q = none)
    (hv : baseIsVerbatim a = false) (hr : startsWithSep q = false) :
    windowsPush a q =
      if a = [] ∨ endsWithSep a = true ∨ isBareDrive a = true then a ++ q else a ++ [BSLASH] ++ q := by
  rw [windowsPush_eq, if_neg hq, hpq, if_neg (by simp), hv, if_neg (by simp), hr, if_neg (by simp)]

/-- onto the empty buffer every branch of `push` returns the argument -/
theorem win_push_empty_base (p : Bytes) : push .windows [] p = p := by
  show windowsPush [] p = p
  rw [windowsPush_eq]
  by_cases hp : p = []
  · rw [if_pos hp, hp]
  · rw [if_neg hp]
    split
    · rfl
    · rw [if_neg (by decide : ¬ baseIsVerbatim [] = true)]
      split
      · rfl
      · rw [if_pos (Or.inl rfl)]
        rfl

end TP.C08

namespace TP.Win

open JoinRules

theorem prefixOf_of_comp {b rest : Bytes} {p : PrefixComp} (h : parsePrefixComp b = some (p, rest)) :
    prefixOf b = some p := by
  unfold prefixOf
  rw [h]
  rfl

theorem baseIsVerbatim_of_prefixOf {a : Bytes} {p : PrefixComp} (h : prefixOf a = some p) :
    baseIsVerbatim a = isVerbatimKind p.kind := by
  unfold baseIsVerbatim
  rw [h]

end TP.Win
