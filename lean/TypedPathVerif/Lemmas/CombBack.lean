/-
Lemmas/CombBack.lean — `move_back_to_next` and `parse_back`, once for both parser files.

The two Rust files differ in the separator test and in the parsers `parse_back` calls, not in what
these two functions do with them.  `G.moveBackLoop` is the loop over the separator predicate and the
`normalize` flag; `G.parseBack` is `parse_back` with the parsers it calls as parameters, so that the
Unix and the Windows function are instances by `rfl`.  On the bytes of a well-formed token list they
compute `skipBack` and `backT`.
-/
import TypedPathVerif.Lemmas.CombTok

namespace TP.Comb

theorem isSuffixOf_singleton_snoc (a : Bytes) (y d : UInt8) : [d].isSuffixOf (a ++ [y]) = decide (y = d) := by
  rw [List.isSuffixOf, List.reverse_append, List.reverse_singleton, List.reverse_singleton, List.singleton_append,
    List.isPrefixOf, List.isPrefixOf, Bool.and_true, beq_swap]

theorem stripSuffix_snoc (a : Bytes) (y d : UInt8) :
    stripSuffix (a ++ [y]) [d] = if y = d then some a else none := by
  unfold stripSuffix
  rw [isSuffixOf_singleton_snoc]
  by_cases h : y = d <;> simp [h]

/-- the input ends with a separator byte (`ends_with_separator`, `ends_with(&[SEPARATOR])`) -/
def endsSep (sep : UInt8 → Bool) (n : Bytes) : Bool :=
  match n.getLast? with
  | some b => sep b
  | none => false

@[simp] theorem endsSep_snoc (sep : UInt8 → Bool) (a : Bytes) (x : UInt8) : endsSep sep (a ++ [x]) = sep x := by
  simp [endsSep]

/-- the `while !input.is_empty()` loop of `move_back_to_next` of either file -/
def G.moveBackLoop (sep : UInt8 → Bool) (norm : Bool) : Nat → Bytes → Res Unit
  | 0, _ => .fault .diverge
  | fuel + 1, i =>
    if i.isEmpty then .ok i ()
    else
      (rtakeUntilByte (fun b => !sep b) i).bind fun i _ =>
        if !norm then .ok i ()
        else
          match stripSuffix i CUR with
          | some n =>
            if endsSep sep n then G.moveBackLoop sep norm fuel n
            else if n.isEmpty then G.moveBackLoop sep norm fuel n
            else .ok i ()
          | none => .ok i ()

variable {sep : UInt8 → Bool}

theorem rstrip_seps_toks {ts : List Tok} (hw : WFToks sep ts) :
    ∃ v, rtakeUntilByte (fun b => !sep b) (untoks ts) = .ok (untoks (skipBack true ts)) v := by
  rw [rtakeUntilByte_eq]
  rcases junk_or_lastSeg true ts with hj | ⟨r, s, j, rfl, hs, hj⟩
  · have hb := untoks_all_sep hw hj
    have key := rspan_bytes (fun x => !(!sep x)) [] (untoks ts) (fun y hy => by simp [hb y hy]) (.inl rfl)
    rw [List.nil_append] at key
    rw [skipBack_all_junk hj, key.1, key.2]
    exact ⟨_, rfl⟩
  · rw [List.append_cons] at hw ⊢
    obtain ⟨hwc, hwj, _⟩ := WFToks_append.mp hw
    have hb := untoks_all_sep hwj hj
    obtain ⟨s0, y, _, hy, hu⟩ := untoks_snoc_seg hwc
    have key := rspan_bytes (fun x => !(!sep x)) (untoks (r ++ [.seg s])) (untoks j)
      (fun y hy => by simp [hb y hy]) (.inr ⟨_, y, hu, by simp [hy]⟩)
    rw [skipBack_append_junk _ hj, skipBack_concat _ hs, untoks_append, key.1, key.2]
    exact ⟨_, rfl⟩

/-- stripping a final `.` and testing what precedes it recognises a final `.` SEGMENT: the byte
before it is a separator or there is none, unless the `.` only ends a longer name -/
theorem strip_cur_toks {β : Type} (A : Bytes → β) (B : β) {c0 : List Tok} {s : Bytes}
    (hw : WFToks sep (c0 ++ [.seg s])) :
    (match stripSuffix (untoks (c0 ++ [.seg s])) CUR with
     | some n => if endsSep sep n = true then A n else if n.isEmpty = true then A n else B
     | none => B) = if s = CUR then A (untoks c0) else B := by
  obtain ⟨s0, y, rfl, -, hu⟩ := untoks_snoc_seg hw
  have hfree := (hw.seg_mem (s0 ++ [y]) (by simp)).2
  rw [hu, show CUR = [DOT] from rfl, stripSuffix_snoc]
  by_cases hy : y = DOT
  · subst hy
    rcases List.eq_nil_or_concat s0 with rfl | ⟨s00, z, rfl⟩
    · rcases before_seg hw with rfl | ⟨c00, x, rfl⟩
      · simp [untoks]
      · have hx : sep x = true := hw.sep_mem x (by simp)
        simp [untoks_append, untoks, Tok.bytes, hx]
    · have hz : sep z = false := hfree z (by simp)
      simp [← List.append_assoc, hz]
  · have : s0 ++ [y] ≠ [DOT] := fun h => hy (by simpa using congrArg List.getLast? h)
    simp [hy, this]

/-- The fuel decreases with every `.` segment removed, so one unit per token (plus one for the
final test) is enough. -/
theorem G.moveBackLoop_toks (norm : Bool) : ∀ (fuel : Nat) (ts : List Tok), WFToks sep ts →
    ts.length + 1 ≤ fuel →
    G.moveBackLoop sep norm fuel (untoks ts) = .ok (untoks (skipBack (!norm) ts)) ()
  | 0, _, _, hf => by omega
  | f + 1, ts, hw, hf => by
    by_cases hts : ts = []
    · subst hts
      rfl
    · have hne : (untoks ts).isEmpty = false := by
        rw [untoks_isEmpty hw, decide_eq_false hts]
      obtain ⟨v, hv⟩ := rstrip_seps_toks hw
      simp only [G.moveBackLoop, hne, Bool.false_eq_true, if_false, hv, Res.bind]
      cases norm with
      | false => rfl
      | true =>
        simp only [Bool.not_true, Bool.false_eq_true, if_false]
        rcases junk_or_lastSeg true ts with hj | ⟨r, s, j, rfl, hs, hj⟩
        · rw [skipBack_all_junk hj, skipBack_all_junk fun t ht => junk_false_of_true (hj t ht)]
          rfl
        · -- under `junk false` the trailing separators are junk too
          have hjf : ∀ t ∈ j, junk false t = true := fun t ht => junk_false_of_true (hj t ht)
          have hwc : WFToks sep (r ++ [.seg s]) := WFToks_prefix _ (List.append_cons r _ j ▸ hw)
          rw [skipBack_lastSeg r hs hj, strip_cur_toks _ _ hwc]
          by_cases hsc : s = CUR
          · have hall : ∀ t ∈ Tok.seg s :: j, junk false t = true := by
              intro t ht
              rcases List.mem_cons.mp ht with rfl | ht
              · simp [junk, hsc]
              · exact hjf t ht
            rw [if_pos hsc, skipBack_append_junk r hall]
            refine G.moveBackLoop_toks true f r (WFToks_prefix r hwc) ?_
            simp only [List.length_append, List.length_cons] at hf
            omega
          · rw [if_neg hsc, skipBack_lastSeg r (by simp [junk, hsc]) hjf]

theorem G.moveBackToNext_toks (norm : Bool) {ts : List Tok} (hw : WFToks sep ts) :
    G.moveBackLoop sep norm ((untoks ts).length + 1) (untoks ts) = .ok (untoks (skipBack (!norm) ts)) () :=
  G.moveBackLoop_toks norm _ ts hw (Nat.succ_le_succ (length_le_untoks hw))

/-- what `parse_back` does with the input in front of the component it has found: `move_back_to_next`
again, but at the beginning a root separator or leading `.` that would go with the rest is kept -/
def G.trim (mb : P Unit) (rd cd : P Comp) (atBeg : Bool) : P Unit := fun i =>
  if atBeg then
    orOk (rd i) (fun _ => cd i) fun startsRootOrCur =>
      if startsRootOrCur then
        (consumedCnt mb i).bind fun newInput cnt =>
          if i.length = cnt then
            match sliceTo i 1 with
            | some x => .ok x ()
            | none => .fault .panic
          else .ok newInput ()
      else mb i
  else mb i

/-- `parse_back` of either file, with the parsers it calls as parameters: `mb` =
`move_back_to_next`, `pf` = `parse_front(state)`, `fn` = what is tried on the text after the last
separator, `rd`, `cd` = `root_dir`, `cur_dir` -/
def G.parseBack (mb : P Unit) (pf fn rd cd : P Comp) (sep : UInt8 → Bool) (atBeg : Bool) : P Comp := fun original =>
  (mb original).bind fun i _ =>
    if atBeg && i.isEmpty then
      (pf original).bind fun _ c => .ok [] c
    else
      (rtakeUntilByte1 sep i).bind fun i afterSep =>
        (fullyConsumed fn afterSep).bind fun _ c =>
          (G.trim mb rd cd atBeg i).bind fun i _ => .ok i c

theorem rtake1_last_seg {c0 : List Tok} {s : Bytes} (hw : WFToks sep (c0 ++ [.seg s])) :
    rtakeUntilByte1 sep (untoks (c0 ++ [.seg s])) = .ok (untoks c0) s := by
  rw [rtakeUntilByte1_eq]
  have hsm := hw.seg_mem s (by simp)
  have key := rspan_bytes (fun x => !sep x) (untoks c0) s (fun y hy => by simp [hsm.2 y hy])
    ((untoks_before_seg hw).imp id fun ⟨a0, y, h, hy⟩ => ⟨a0, y, h, by simp [hy]⟩)
  have hu : untoks (c0 ++ [.seg s]) = untoks c0 ++ s := by
    rw [untoks_append]
    simp [untoks, Tok.bytes]
  have hne : (untoks c0 ++ s).reverse.takeWhile (fun x => !sep x) ≠ [] := by
    intro h
    have := key.2
    rw [h] at this
    exact hsm.1 this.symm
  rw [hu, if_neg hne, key.1, key.2]

/-- `&input[..1]` ("preserve root dir"): the root separator or the leading `.` is one byte -/
theorem untoks_take_one {c0 : List Tok} (h : startsRootOrCur c0 = true) :
    sliceTo (untoks c0) 1 = some (untoks (c0.take 1)) := by
  cases c0 with
  | nil => simp [startsRootOrCur] at h
  | cons t r =>
    cases t with
    | sep x => simp [sliceTo, untoks, Tok.bytes]
    | seg s =>
      have : s = CUR := by simpa [startsRootOrCur] using h
      subst this
      simp [sliceTo, untoks, Tok.bytes, CUR]

theorem G.trim_toks {k : Bool} {mb : P Unit} {rd cd : P Comp}
    (hmb : ∀ {ts : List Tok}, WFToks sep ts → mb (untoks ts) = .ok (untoks (skipBack k ts)) ())
    (hrd : rd = tokP sep (sepC .root)) (hcd : cd = tokP sep (segC (isPat CUR .cur)))
    (atBeg : Bool) {r : List Tok} (hw : WFToks sep r) :
    G.trim mb rd cd atBeg (untoks r) = .ok (untoks (trimBack k atBeg r)) () := by
  unfold G.trim
  cases atBeg with
  | false => simp [trimBack, hmb hw]
  | true =>
    have hwr : WFToks sep (skipBack k r) := by
      obtain ⟨j, hs, _⟩ := skipBack_split k r
      exact WFToks_prefix _ (hs ▸ hw)
    simp only [if_true, hrd, hcd, orOk_rootCur hw, trimBack, true_and, consumedCnt, hmb hw, Res.bind]
    -- the "preserve root" test `len = cnt`: the count consumed is the whole length exactly when `skipBack`
    -- leaves nothing, that is, when everything in front was junk
    by_cases h0 : skipBack k r = []
    · cases r with
      | nil => simp [startsRootOrCur, skipBack]
      | cons t r0 =>
        have hst := startsRootOrCur_of_junk (r := r0) (skipBack_eq_nil_iff.mp h0 t (by simp))
        simp only [hst, h0, if_true, untoks_take_one hst]
        simp [untoks, checkedSub]
    · have hlen : (untoks (skipBack k r)).length ≤ (untoks r).length := by
        obtain ⟨j, hs, _⟩ := skipBack_split k r
        conv => rhs; rw [hs, untoks_append]
        simp
      have hpos : 0 < (untoks (skipBack k r)).length :=
        List.length_pos_iff.mpr fun h' => h0 (untoks_eq_nil hwr h')
      have hcnt : ¬ (untoks r).length = (untoks r).length - (untoks (skipBack k r)).length := by omega
      by_cases hst : startsRootOrCur r = true
      · simp [h0, hst, checkedSub, hlen, hcnt]
      · simp [h0, hst]

theorem G.parseBack_toks {k atBeg : Bool} {mb : P Unit} {pf fn rd cd : P Comp}
    (hmb : ∀ {ts : List Tok}, WFToks sep ts → mb (untoks ts) = .ok (untoks (skipBack k ts)) ())
    (hpf : ∀ {ts : List Tok}, WFToks sep ts → pf (untoks ts) = match frontT k atBeg ts with
      | some (c, ts') => .ok (untoks ts') c
      | none => .err)
    (hfn : fn = tokP sep (headC false k))
    (hrd : rd = tokP sep (sepC .root)) (hcd : cd = tokP sep (segC (isPat CUR .cur)))
    {ts : List Tok} (hw : WFToks sep ts) :
    G.parseBack mb pf fn rd cd sep atBeg (untoks ts) = match backT k atBeg ts with
      | some (c, ts') => .ok (untoks ts') c
      | none => .err := by
  unfold G.parseBack
  simp only [hmb hw, Res.bind]
  rcases junk_or_lastSeg k ts with hj | ⟨r, s, j, rfl, hs, hj⟩
  · -- junk only: nothing is left after trimming; at the beginning the front parser is asked
    rw [skipBack_all_junk hj, backT_all_junk hj]
    cases atBeg with
    | false => simp [untoks, rtakeUntilByte1_eq]
    | true =>
      simp only [untoks, List.isEmpty_nil, Bool.and_self, if_true, hpf hw]
      cases ts with
      | nil => rfl
      | cons t r =>
        rw [frontT_cons_true]
        rfl
  · -- a last segment: it is the component; what is in front of it is trimmed
    have hwc : WFToks sep (r ++ [.seg s]) := WFToks_prefix _ (List.append_cons r _ j ▸ hw)
    have hsm := hwc.seg_mem s (by simp)
    have hne : (untoks (r ++ [.seg s])).isEmpty = false := by
      rw [untoks_isEmpty hwc]
      simp
    rw [skipBack_lastSeg r hs hj, backT_lastSeg r hs hj]
    simp only [hne, Bool.and_false, Bool.false_eq_true, if_false, rtake1_last_seg hwc, hfn,
      fullyConsumed_tokP _ hsm.1 hsm.2, headC, Bool.false_or, ofOpt,
      G.trim_toks hmb hrd hcd atBeg (WFToks_prefix r hwc)]

end TP.Comb
