/-
Lemmas/CombCore.lean — closed forms of the byte-level combinators (`Model/Comb/Core.lean`):
every checked slice is in range, so none of the primitives faults, and each equals a plain
`takeWhile` / `dropWhile` / `isPrefixOf` expression.
-/
import TypedPathVerif.Model.Comb.Unix

namespace TP.Comb

theorem beq_swap (a x : UInt8) : (a == x) = decide (x = a) := by
  show decide (a = x) = decide (x = a)
  rw [decide_eq_decide]
  exact eq_comm

theorem findIdx?_span {α : Type} (p : α → Bool) (l : List α) :
    l.findIdx? p =
      if l.dropWhile (fun x => !p x) = [] then none else some (l.takeWhile (fun x => !p x)).length := by
  induction l with
  | nil => simp
  | cons x xs ih =>
    rw [List.findIdx?_cons]
    by_cases hx : p x = true
    · simp [hx]
    · have hx' : p x = false := by simpa using hx
      simp only [hx', Bool.false_eq_true, if_false, List.dropWhile_cons, Bool.not_false, if_true,
        List.takeWhile_cons, List.length_cons, ih]
      split <;> simp

theorem take_drop_takeWhile_length {α : Type} (p : α → Bool) (l : List α) :
    l.take (l.takeWhile p).length = l.takeWhile p ∧ l.drop (l.takeWhile p).length = l.dropWhile p := by
  have h := List.takeWhile_append_dropWhile (p := p) (l := l)
  generalize l.takeWhile p = a at h
  generalize l.dropWhile p = b at h
  subst h
  simp

theorem dropWhile_of_takeWhile_nil {α : Type} {p : α → Bool} {l : List α} (h : l.takeWhile p = []) :
    l.dropWhile p = l := by
  have := List.takeWhile_append_dropWhile (p := p) (l := l)
  rwa [h, List.nil_append] at this

theorem bind_ok {α β : Type} (i : Bytes) (v : α) (f : Bytes → α → Res β) : (Res.ok i v).bind f = f i v := rfl

theorem sliceFrom_append (a b : Bytes) : sliceFrom (a ++ b) a.length = some b := by
  rw [sliceFrom, if_pos (by simp), List.drop_left]

theorem sliceTo_append (a b : Bytes) : sliceTo (a ++ b) a.length = some a := by
  rw [sliceTo, if_pos (by simp), List.take_left]

theorem takeUntilByte_eq (pred : UInt8 → Bool) (i : Bytes) :
    takeUntilByte pred i = .ok (i.dropWhile (fun x => !pred x)) (i.takeWhile (fun x => !pred x)) := by
  unfold takeUntilByte
  rw [findIdx?_span]
  by_cases hd : i.dropWhile (fun x => !pred x) = []
  · simp only [hd, if_true]
    have := List.takeWhile_append_dropWhile (p := fun x => !pred x) (l := i)
    rw [hd, List.append_nil] at this
    rw [this]
  · simp only [hd, if_false]
    cases hn : (i.takeWhile (fun x => !pred x)).length with
    | zero =>
      have ht : i.takeWhile (fun x => !pred x) = [] := List.length_eq_zero_iff.mp hn
      simp only [ht, dropWhile_of_takeWhile_nil ht]
    | succ n =>
      have hle := (List.takeWhile_prefix (fun x => !pred x) (l := i)).length_le
      simp only [sliceFrom, sliceTo]
      rw [← hn]
      simp only [hle, if_true, take_drop_takeWhile_length]

theorem takeUntilByte1_eq (pred : UInt8 → Bool) (i : Bytes) :
    takeUntilByte1 pred i =
      if i.takeWhile (fun x => !pred x) = [] then .err
      else .ok (i.dropWhile (fun x => !pred x)) (i.takeWhile (fun x => !pred x)) := by
  unfold takeUntilByte1
  rw [takeUntilByte_eq]
  simp only [Res.bind, List.isEmpty_iff]

theorem rfindIdx?_span (pred : UInt8 → Bool) (i : Bytes) :
    rfindIdx? pred i =
      if i.reverse.dropWhile (fun x => !pred x) = [] then none
      else some (i.length - 1 - (i.reverse.takeWhile (fun x => !pred x)).length) := by
  unfold rfindIdx?
  rw [findIdx?_span]
  by_cases h : i.reverse.dropWhile (fun x => !pred x) = [] <;> simp [h]

theorem rtakeUntilByte_eq (pred : UInt8 → Bool) (i : Bytes) :
    rtakeUntilByte pred i =
      .ok (i.reverse.dropWhile (fun x => !pred x)).reverse (i.reverse.takeWhile (fun x => !pred x)).reverse := by
  unfold rtakeUntilByte
  rw [rfindIdx?_span]
  -- `i = a.reverse ++ b.reverse`, `b` the trailing run: every index below is a length of one of them
  have hab : i = (i.reverse.dropWhile (fun x => !pred x)).reverse ++ (i.reverse.takeWhile (fun x => !pred x)).reverse := by
    rw [← List.reverse_append, List.takeWhile_append_dropWhile, List.reverse_reverse]
  generalize hb : (i.reverse.takeWhile (fun x => !pred x)) = b at hab ⊢
  generalize ha : (i.reverse.dropWhile (fun x => !pred x)) = a at hab ⊢
  subst hab
  cases a with
  | nil => simp
  | cons y a' =>
    have h1 : (a'.reverse ++ [y] ++ b.reverse).length - 1 - b.length + 1 = (a'.reverse ++ [y]).length := by
      simp
    have hl : 1 ≤ (a'.reverse ++ [y] ++ b.reverse).length := by
      simp
      omega
    have hle : (a'.reverse ++ [y]).length ≤ (a'.reverse ++ [y] ++ b.reverse).length := by
      simp
    simp only [reduceCtorEq, if_false, checkedSub, List.reverse_cons, sliceTo, sliceFrom, h1, hl, hle, if_true,
      List.take_left', List.drop_left']
    cases b with
    | nil => simp
    | cons z b' =>
      have : ¬ (a'.reverse ++ [y] ++ (z :: b').reverse).length - 1 - (z :: b').length =
          (a'.reverse ++ [y] ++ (z :: b').reverse).length - 1 := by
        simp
      simp only [this, if_false]

theorem rtakeUntilByte1_eq (pred : UInt8 → Bool) (i : Bytes) :
    rtakeUntilByte1 pred i =
      if i.reverse.takeWhile (fun x => !pred x) = [] then .err
      else .ok (i.reverse.dropWhile (fun x => !pred x)).reverse (i.reverse.takeWhile (fun x => !pred x)).reverse := by
  unfold rtakeUntilByte1
  rw [rtakeUntilByte_eq]
  simp only [Res.bind, List.isEmpty_iff, List.reverse_eq_nil_iff]

theorem take_eq (cnt : Nat) (i : Bytes) :
    take cnt i = if cnt = 0 ∨ cnt > i.length then .err else .ok (i.drop cnt) (i.take cnt) := by
  unfold take
  by_cases h0 : cnt = 0
  · simp [h0]
  · by_cases h1 : cnt > i.length
    · simp [h0, h1]
    · have : cnt ≤ i.length := by omega
      simp [h0, h1, sliceFrom, sliceTo, this]

theorem bytes_eq (pat i : Bytes) :
    bytes pat i = if i ≠ [] ∧ pat.isPrefixOf i = true then .ok (i.drop pat.length) pat else .err := by
  unfold bytes
  by_cases hi : i = []
  · simp [hi]
  · simp only [List.isEmpty_iff, hi, if_false, ne_eq, not_false_eq_true, true_and]
    by_cases hp : pat.isPrefixOf i = true
    · have hpre : pat <+: i := List.isPrefixOf_iff_prefix.mp hp
      have hlen : pat.length ≤ i.length := hpre.length_le
      have : ¬ i.length < pat.length := by omega
      simp only [this, if_false, hp, if_true, sliceFrom, sliceTo, hlen]
      rw [← List.prefix_iff_eq_take.mp hpre]
    · simp only [hp, Bool.false_eq_true, if_false]
      split <;> rfl

theorem bytes_append (pat r : Bytes) (h : pat ≠ []) : bytes pat (pat ++ r) = .ok r pat := by
  have hp : pat.isPrefixOf (pat ++ r) = true := List.isPrefixOf_iff_prefix.mpr ⟨r, rfl⟩
  rw [bytes_eq, if_pos ⟨by simp [h], hp⟩, List.drop_left]

theorem bytes_err (pat i : Bytes) (h : ∀ r, i ≠ pat ++ r) : bytes pat i = .err := by
  rw [bytes_eq, if_neg]
  rintro ⟨_, hp⟩
  obtain ⟨t, ht⟩ := List.isPrefixOf_iff_prefix.mp hp
  exact h t ht.symm

theorem byte_eq (b : UInt8) (i : Bytes) :
    byte b i = match i with
      | x :: r => if x = b then .ok r b else .err
      | [] => .err := by
  unfold byte
  cases i with
  | nil => simp
  | cons x r =>
    by_cases hx : x = b
    · subst hx
      simp [List.isPrefixOf, sliceFrom]
    · have : (b == x) = false := by simpa using fun h => hx h.symm
      simp [List.isPrefixOf, hx, this]

end TP.Comb
