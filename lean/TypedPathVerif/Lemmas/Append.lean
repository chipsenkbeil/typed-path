/-
Lemmas/Append.lean — (A) the append lemma: components of a path with something pushed onto it.
Unix in full; the token-level facts hold for every separator set.
-/
import TypedPathVerif.Lemmas.EncNew

namespace TP

theorem compsT_trailing_sep (f : UInt8 → Bool) (k : Bool) (a : Bytes) (x : UInt8) (hx : f x = true)
    (ha : a ≠ []) : compsT k true (toks f (a ++ [x])) = compsT k true (toks f a) := by
  rw [toks_append_sep_end f a x hx, compsT_append _ (.inr (by rwa [ne_eq, toks_eq_nil_iff])),
    body_cons_junk [] (by rfl), body_nil, List.append_nil]

/-- drop a leading `.` component -/
def dropLeadingCur : List Comp → List Comp
  | .cur :: r => r
  | l => l

/-- what a path without a root contributes when it no longer starts the path -/
theorem body_eq_dropLeadingCur (ts : List Tok) (hrel : (compsT false true ts).head? ≠ some .root) :
    body false ts = dropLeadingCur (compsT false true ts) := by
  cases ts with
  | nil => rfl
  | cons t r =>
    rw [compsT_true_cons] at hrel ⊢
    cases t with
    | sep x => exact absurd rfl hrel
    | seg s =>
      rw [headComp]
      by_cases hc : s = CUR
      · subst hc
        exact body_cons_junk r (by decide)
      · rw [body_cons_seg r (junk_seg_of_ne hc)]
        rcases segComp_cases true s with h | h | h
        · rw [h.1]
          rfl
        · exact absurd h.2 hc
        · rw [h]
          rfl

/-- (A) on tokens, for any separator set -/
theorem compsT_join (f : UInt8 → Bool) (a p : Bytes) (x : UInt8) (hx : f x = true)
    (hrel : (compsT false true (toks f p)).head? ≠ some .root) :
    compsT false true (toks f (a ++ x :: p)) =
      compsT false true (toks f (a ++ [x])) ++ dropLeadingCur (compsT false true (toks f p)) := by
  rw [toks_append_sep f a p x hx, List.append_cons, ← toks_append_sep_end f a x hx,
    compsT_append _ (.inr (by rw [ne_eq, toks_eq_nil_iff]; simp)), body_eq_dropLeadingCur _ hrel]

/-! ### Unix -/

theorem usep_slash : usep SLASH = true := by decide

theorem unix_comps_nil : comps .unix [] = [] := by
  rw [unix_comps_eq]
  rfl

theorem unix_isAbsolute_iff (p : Bytes) : isAbsolute .unix p = true ↔ (comps .unix p).head? = some .root := by
  show hasRoot .unix p = true ↔ _
  rw [comps, comps_unfold]
  simp only [hasRoot]
  cases (Enc.new .unix p).nextFront with
  | none => simp
  | some r =>
    obtain ⟨c, s⟩ := r
    cases c <;> simp

theorem unix_isAbsolute_false_of_no_root {p : Bytes} (h : Comp.root ∉ comps .unix p) :
    isAbsolute .unix p = false := by
  cases ha : isAbsolute .unix p with
  | false => rfl
  | true => exact absurd (List.mem_of_mem_head? ((unix_isAbsolute_iff p).mp ha)) h

theorem unixPush_nil_left (p : Bytes) : unixPush [] p = p := by
  unfold unixPush
  by_cases hp : p = []
  · rw [if_pos hp, hp]
  · rw [if_neg hp]
    by_cases ha : isAbsolute .unix p = true
    · rw [if_pos ha]
    · rw [if_neg ha, if_neg (fun h => h.1 rfl)]
      rfl

/-- (A) for Unix: pushing a relative path onto a non-empty buffer appends its components (minus a
leading `.`, which no longer starts the path) to the buffer's. -/
theorem unix_push_comps (cur p : Bytes) (hrel : isAbsolute .unix p = false) (hcur : cur ≠ []) :
    comps .unix (unixPush cur p) = comps .unix cur ++ dropLeadingCur (comps .unix p) := by
  by_cases hp : p = []
  · subst hp
    rw [unix_comps_nil, show unixPush cur [] = cur from if_pos rfl]
    exact (List.append_nil _).symm
  have hrel' : (compsT false true (toks usep p)).head? ≠ some .root := by
    rw [← unix_comps_eq, ne_eq, ← unix_isAbsolute_iff, hrel]
    exact Bool.noConfusion
  unfold unixPush
  simp only [hp, if_false, hrel, Bool.false_eq_true, unix_comps_eq]
  by_cases hlast : cur.getLast? = some SLASH
  · rw [if_neg (fun h => h.2 hlast)]
    obtain ⟨c', rfl⟩ := List.getLast?_eq_some_iff.mp hlast
    rw [List.append_assoc, List.singleton_append, compsT_join usep c' p SLASH usep_slash hrel']
  · rw [if_pos ⟨hcur, hlast⟩, List.append_assoc, List.singleton_append,
      compsT_join usep cur p SLASH usep_slash hrel', compsT_trailing_sep usep false cur SLASH usep_slash hcur]

end TP
