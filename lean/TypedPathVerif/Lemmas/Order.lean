/-
Lemmas/Order.lean — comparison functions that are total orders, and their lexicographic
combinations (what `#[derive(Ord)]` and `Iterator::cmp` build).
-/
import TypedPathVerif.Model.Path

namespace TP

/-- `c` is a total preorder whose `.eq` is a congruence: the laws a derived `Ord` satisfies. -/
structure IsOrd {α : Type} (c : α → α → Ordering) : Prop where
  swap : ∀ a b, c b a = (c a b).swap
  trans_lt : ∀ a b d, c a b = .lt → c b d = .lt → c a d = .lt
  eq_congr : ∀ a b, c a b = .eq → ∀ x, c a x = c b x

namespace IsOrd

variable {α : Type} {c : α → α → Ordering}

theorem refl (h : IsOrd c) (a : α) : c a a = .eq := by
  have := h.swap a a
  cases hc : c a a <;> simp [hc, Ordering.swap] at this ⊢

theorem eq_symm (h : IsOrd c) {a b : α} (hab : c a b = .eq) : c b a = .eq := by
  rw [h.swap a b, hab]; rfl

theorem eq_congr_right (h : IsOrd c) {a b : α} (hab : c a b = .eq) (x : α) : c x a = c x b := by
  rw [h.swap a x, h.swap b x, h.eq_congr a b hab x]

theorem gt_iff_lt (h : IsOrd c) (a b : α) : c a b = .gt ↔ c b a = .lt := by
  rw [h.swap a b]
  cases c a b <;> simp [Ordering.swap]

/-- transitivity of `≤` (i.e. of "not greater") -/
theorem trans_le (h : IsOrd c) (a b d : α) (h1 : c a b ≠ .gt) (h2 : c b d ≠ .gt) : c a d ≠ .gt := by
  cases hab : c a b with
  | gt => exact absurd hab h1
  | eq => rw [h.eq_congr a b hab d]; exact h2
  | lt =>
    cases hbd : c b d with
    | gt => exact absurd hbd h2
    | eq => rw [← h.eq_congr_right hbd a, hab]; simp
    | lt => rw [h.trans_lt a b d hab hbd]; simp

theorem trans_eq (h : IsOrd c) (a b d : α) (h1 : c a b = .eq) (h2 : c b d = .eq) : c a d = .eq := by
  rw [h.eq_congr a b h1 d]; exact h2

theorem of_eq {c' : α → α → Ordering} (h : IsOrd c') (e : ∀ a b, c a b = c' a b) : IsOrd c :=
  (funext fun a => funext (e a) : c = c') ▸ h

/-- `lt` is transitive for `(c a b).then p` when it is for `c` and, under equal heads, for the second
components: the step shared by pairs and lists -/
theorem then_trans_lt (h : IsOrd c) {a b d : α} {p q r : Ordering} (hpq : p = .lt → q = .lt → r = .lt)
    (hab : (c a b).then p = .lt) (hbd : (c b d).then q = .lt) : (c a d).then r = .lt := by
  cases e1 : c a b with
  | gt => simp [e1, Ordering.then] at hab
  | lt =>
    cases e2 : c b d with
    | gt => simp [e2, Ordering.then] at hbd
    | lt => simp [h.trans_lt _ _ _ e1 e2, Ordering.then]
    | eq =>
      rw [← h.eq_congr_right e2 a, e1]
      rfl
  | eq =>
    rw [h.eq_congr _ _ e1 d]
    cases e2 : c b d with
    | gt => simp [e2, Ordering.then] at hbd
    | lt => rfl
    | eq =>
      simp only [e1, e2, Ordering.then] at hab hbd ⊢
      exact hpq hab hbd

theorem then_eq_congr (h : IsOrd c) {a b x : α} {p r s : Ordering} (hp : p = .eq → r = s)
    (hab : (c a b).then p = .eq) : (c a x).then r = (c b x).then s := by
  obtain ⟨e1, e2⟩ := Ordering.then_eq_eq.mp hab
  rw [h.eq_congr _ _ e1 x, hp e2]

end IsOrd

theorem cmpNat_eq_compare (a b : Nat) : cmpNat a b = compare a b :=
  (Nat.compare_eq_ite_lt a b).symm

theorem isOrd_cmpNat : IsOrd cmpNat :=
  IsOrd.of_eq (c' := fun a b : Nat => compare a b)
    ⟨fun a b => (Nat.compare_swap a b).symm,
     fun _ _ _ h1 h2 => Nat.compare_eq_lt.mpr (Nat.lt_trans (Nat.compare_eq_lt.mp h1) (Nat.compare_eq_lt.mp h2)),
     fun _ _ h _ => Nat.compare_eq_eq.mp h ▸ rfl⟩
    cmpNat_eq_compare

theorem cmpNat_eq_iff (a b : Nat) : cmpNat a b = .eq ↔ a = b := by
  rw [cmpNat_eq_compare]
  exact Nat.compare_eq_eq

theorem isOrd_then {α β : Type} {c1 : α → α → Ordering} {c2 : β → β → Ordering}
    (h1 : IsOrd c1) (h2 : IsOrd c2) :
    IsOrd (fun (x y : α × β) => (c1 x.1 y.1).then (c2 x.2 y.2)) :=
  ⟨fun a b => by simp only [h1.swap a.1 b.1, h2.swap a.2 b.2, Ordering.swap_then],
   fun a b d => h1.then_trans_lt (h2.trans_lt _ _ _),
   fun a b hab x => h1.then_eq_congr (fun hp => h2.eq_congr _ _ hp _) hab⟩

/-- lexicographic order on lists (`<[T] as Ord>::cmp`, `Iterator::cmp`) -/
def lexCmp {α : Type} (c : α → α → Ordering) : List α → List α → Ordering
  | [], [] => .eq
  | [], _ :: _ => .lt
  | _ :: _, [] => .gt
  | a :: as, b :: bs => (c a b).then (lexCmp c as bs)

theorem isOrd_lexCmp {α : Type} {c : α → α → Ordering} (h : IsOrd c) : IsOrd (lexCmp c) := by
  constructor
  · intro a
    induction a with
    | nil =>
      intro b
      cases b <;> rfl
    | cons x xs ih =>
      intro b
      cases b with
      | nil => rfl
      | cons y ys => simp only [lexCmp, h.swap x y, ih ys, Ordering.swap_then]
  · intro a
    induction a with
    | nil =>
      intro b d hab hbd
      cases b with
      | nil => cases hab
      | cons y ys =>
        cases d with
        | nil => cases hbd
        | cons z zs => rfl
    | cons x xs ih =>
      intro b d hab hbd
      cases b with
      | nil => cases hab
      | cons y ys =>
        cases d with
        | nil => cases hbd
        | cons z zs => exact h.then_trans_lt (ih ys zs) hab hbd
  · intro a
    induction a with
    | nil =>
      intro b hab x
      cases b with
      | nil => rfl
      | cons y ys => cases hab
    | cons x0 xs ih =>
      intro b hab x
      cases b with
      | nil => cases hab
      | cons y ys =>
        cases x with
        | nil => rfl
        | cons z zs => exact h.then_eq_congr (fun hp => ih ys hp zs) hab

theorem lexCmp_eq_iff {α β : Type} {c : α → α → Ordering} {f : α → β} (hc : ∀ a b, c a b = .eq ↔ f a = f b) :
    ∀ (a b : List α), lexCmp c a b = .eq ↔ a.map f = b.map f
  | [], [] => by simp [lexCmp]
  | [], _ :: _ => by simp [lexCmp]
  | _ :: _, [] => by simp [lexCmp]
  | x :: xs, y :: ys => by
    rw [lexCmp, Ordering.then_eq_eq, hc, lexCmp_eq_iff hc xs ys, List.map_cons, List.map_cons, List.cons.injEq]

/-- the order a key function induces (the key need not be injective) -/
theorem isOrd_comap {α β : Type} {c : β → β → Ordering} (h : IsOrd c) (f : α → β) :
    IsOrd (fun x y => c (f x) (f y)) :=
  ⟨fun _ _ => h.swap _ _, fun _ _ _ => h.trans_lt _ _ _, fun _ _ hab _ => h.eq_congr _ _ hab _⟩

end TP
