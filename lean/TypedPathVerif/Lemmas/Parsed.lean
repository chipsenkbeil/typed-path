/-
Lemmas/Parsed.lean — what the components of a tokenised byte string look like, for any separator
set, when `.` is skipped (flag `k = false`): a root or a `.` can only come first, every other
component is `..` or a name, and a name is a non-empty run of non-separator bytes other than `.` and
`..`.  With `k = true` a `.` is a component wherever it stands; component by component the same holds
for either flag (`compsT_mem_wf`).
-/
import TypedPathVerif.Lemmas.Reparse

namespace TP

/-- a byte string that is one name for the separator set `f` -/
def nameOKs (f : UInt8 → Bool) (s : Bytes) : Prop :=
  s ≠ [] ∧ (∀ y ∈ s, f y = false) ∧ s ≠ CUR ∧ s ≠ PAR

/-- a component that may stand anywhere in a parsed path: `..` or a name -/
def tailOKs (f : UInt8 → Bool) (c : Comp) : Prop :=
  c = .parent ∨ ∃ s, c = .normal s ∧ nameOKs f s

/-- a parsed component list: root or `.` only in front -/
def Parsed (f : UInt8 → Bool) : List Comp → Prop
  | [] => True
  | c :: cs => (c = .root ∨ c = .cur ∨ tailOKs f c) ∧ ∀ x ∈ cs, tailOKs f x

theorem nameOKs.mono {f g : UInt8 → Bool} (hfg : ∀ y, g y = true → f y = true) {s : Bytes}
    (h : nameOKs f s) : nameOKs g s := by
  refine ⟨h.1, fun y hy => ?_, h.2.2⟩
  cases hg : g y with
  | false => rfl
  | true => exact absurd (hfg y hg) (by rw [h.2.1 y hy]; exact Bool.noConfusion)

theorem tailOKs.mono {f g : UInt8 → Bool} (hfg : ∀ y, g y = true → f y = true) {c : Comp}
    (h : tailOKs f c) : tailOKs g c :=
  h.imp id fun ⟨s, hc, hs⟩ => ⟨s, hc, hs.mono hfg⟩

theorem tailOKs.ne_root {f : UInt8 → Bool} {c : Comp} (h : tailOKs f c) : c ≠ .root := by
  rcases h with rfl | ⟨_, rfl, _⟩
  · exact Comp.noConfusion
  · exact Comp.noConfusion

theorem tailOKs.ne_cur {f : UInt8 → Bool} {c : Comp} (h : tailOKs f c) : c ≠ .cur := by
  rcases h with rfl | ⟨_, rfl, _⟩
  · exact Comp.noConfusion
  · exact Comp.noConfusion

theorem segComp_tailOKs {f : UInt8 → Bool} {c : Bool} {s : Bytes} (h1 : s ≠ [])
    (h2 : ∀ y ∈ s, f y = false) (hc : s ≠ CUR) : tailOKs f (segComp c s) := by
  by_cases hp : s = PAR
  · subst hp
    exact Or.inl (if_pos rfl)
  · rw [segComp_eq_normal c hc hp]
    exact Or.inr ⟨s, rfl, h1, h2, hc, hp⟩

theorem compsT_mem_wf {f : UInt8 → Bool} {k : Bool} {ts : List Tok} (hw : WFToks f ts) {c : Comp}
    (hc : c ∈ compsT k true ts) : c = .root ∨ c = .cur ∨ tailOKs f c := by
  rcases mem_compsT hc with rfl | ⟨s, hs, rfl⟩
  · exact .inl rfl
  · obtain ⟨h1, h2⟩ := hw.seg_mem s hs
    by_cases hcur : s = CUR
    · exact hcur ▸ .inr (.inl rfl)
    · exact .inr (.inr (segComp_tailOKs h1 h2 hcur))

theorem compsT_parsed {f : UInt8 → Bool} {ts : List Tok} (hw : WFToks f ts) :
    Parsed f (compsT false true ts) := by
  cases ts with
  | nil => trivial
  | cons t r =>
    have hh : headComp t ∈ compsT false true (t :: r) := by
      rw [compsT_true_cons]
      exact List.mem_cons_self ..
    rw [compsT_true_cons]
    refine ⟨compsT_mem_wf hw hh, fun c hc => ?_⟩
    -- behind the first token a `.` is skipped
    obtain ⟨s, hs, hj, rfl⟩ := mem_body.mp hc
    obtain ⟨h1, h2⟩ := (WFToks_suffix [_] hw).seg_mem s hs
    exact segComp_tailOKs h1 h2 (ne_cur_of_not_junk hj)

theorem normal_mem_compsT {f : UInt8 → Bool} {k : Bool} {ts : List Tok} (hw : WFToks f ts) {s : Bytes}
    (h : Comp.normal s ∈ compsT k true ts) : nameOKs f s := by
  rcases compsT_mem_wf hw h with h | h | h | ⟨s', h, hs⟩
  · cases h
  · cases h
  · cases h
  · cases h
    exact hs

theorem compsT_name {f : UInt8 → Bool} (k : Bool) {s : Bytes} (h : nameOKs f s) :
    compsT k true (toks f s) = [.normal s] := by
  obtain ⟨h1, h2, h3, h4⟩ := h
  have ht : toks f s = [.seg s] := by
    have := toks_append_seg (rest := []) (r := []) h1 h2 rfl trivial
    rwa [List.append_nil] at this
  rw [ht, compsT_true_cons, headComp, segComp_eq_normal true h3 h4]
  rfl

theorem normal_mem_of_seg {k : Bool} {ts : List Tok} {s : Bytes} (hs : Tok.seg s ∈ ts) (hc : s ≠ CUR)
    (hp : s ≠ PAR) : Comp.normal s ∈ compsT k true ts := by
  have hseg : Comp.normal s = segComp true s := (segComp_eq_normal true hc hp).symm
  cases ts with
  | nil => cases hs
  | cons t r =>
    rw [compsT_true_cons]
    rcases List.mem_cons.mp hs with rfl | hs
    · exact List.mem_cons.mpr (.inl hseg)
    · exact List.mem_cons_of_mem _ (mem_body.mpr ⟨s, hs, junk_seg_of_ne hc, hseg⟩)

theorem compsT_head_root {f : UInt8 → Bool} {k : Bool} {b : Bytes} :
    (compsT k true (toks f b)).head? = some .root ↔ ∃ x t, b = x :: t ∧ f x = true :=
  compsT_head_root_iff.trans toks_head_sep_iff

theorem Parsed.mono {f g : UInt8 → Bool} (hfg : ∀ y, g y = true → f y = true) {l : List Comp}
    (h : Parsed f l) : Parsed g l := by
  cases l with
  | nil => trivial
  | cons c cs => exact ⟨h.1.imp id (·.imp id (·.mono hfg)), fun x hx => (h.2 x hx).mono hfg⟩

theorem tailOKs.noPfx {f : UInt8 → Bool} {c : Comp} (h : tailOKs f c) : c.isPfx = false := by
  rcases h with rfl | ⟨_, rfl, _⟩ <;> rfl

theorem Parsed.noPfx {f : UInt8 → Bool} {l : List Comp} (h : Parsed f l) : ∀ c ∈ l, c.isPfx = false := by
  cases l with
  | nil => exact fun _ hc => nomatch hc
  | cons c cs =>
    intro x hx
    rcases List.mem_cons.mp hx with rfl | hx
    · rcases h.1 with rfl | rfl | hc
      · rfl
      · rfl
      · exact hc.noPfx
    · exact (h.2 x hx).noPfx

theorem Parsed.sublist {f : UInt8 → Bool} {l₁ l₂ : List Comp} (hs : l₁.Sublist l₂) (h : Parsed f l₂) :
    Parsed f l₁ := by
  induction hs with
  | slnil => trivial
  | @cons l₁ _ c hs _ =>
    cases l₁ with
    | nil => trivial
    | cons x xs =>
      exact ⟨Or.inr (Or.inr (h.2 x (hs.subset (List.mem_cons_self ..)))),
        fun y hy => h.2 y (hs.subset (List.mem_cons_of_mem _ hy))⟩
  | cons_cons c hs _ => exact ⟨h.1, fun y hy => h.2 y (hs.subset hy)⟩

theorem Parsed.append_right {f : UInt8 → Bool} {a b : List Comp} (h : Parsed f (a ++ b)) (ha : a ≠ []) :
    ∀ x ∈ b, tailOKs f x := by
  cases a with
  | nil => exact absurd rfl ha
  | cons c cs => exact fun x hx => h.2 x (List.mem_append_right _ hx)

theorem Parsed.head_of_root_mem {f : UInt8 → Bool} {l : List Comp} (h : Parsed f l) (hr : Comp.root ∈ l) :
    l.head? = some .root := by
  cases l with
  | nil => cases hr
  | cons c cs =>
    rcases List.mem_cons.mp hr with rfl | hr
    · rfl
    · exact absurd rfl (h.2 _ hr).ne_root

theorem Parsed.nameOK {f : UInt8 → Bool} {l : List Comp} (h : Parsed f l) {s : Bytes} (hs : Comp.normal s ∈ l) :
    nameOKs f s := by
  cases l with
  | nil => cases hs
  | cons c cs =>
    have ht : tailOKs f (.normal s) := by
      rcases List.mem_cons.mp hs with rfl | hs
      · exact (h.1.resolve_left Comp.noConfusion).resolve_left Comp.noConfusion
      · exact h.2 _ hs
    rcases ht with h | ⟨_, h, hs⟩
    · cases h
    · cases h
      exact hs

end TP
