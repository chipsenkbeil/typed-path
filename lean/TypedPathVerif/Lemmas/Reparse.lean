/-
Lemmas/Reparse.lean — law (R): a step leaves a contiguous piece of the tokens, and the bytes that
remain, tokenised again and read as a fresh path, give the components that remain.

Stated for the states a parser can reach, with the separator set `f` and the flag `k` as variables
(`Reach f k`).  In the same way, `set_extension` writes a new name where the last segment token was
(`compsT_replace_last`).
-/
import TypedPathVerif.Lemmas.Laws
import TypedPathVerif.Lemmas.Toks

namespace TP

theorem nextFront_toks {s s' : PState} {c : Comp} (h : s.nextFront = some (c, s')) :
    s'.k = s.k ∧ s'.pre = none ∧ s'.toks <:+ s.toks := by
  rcases nextFront_cases h with ⟨p, _, _, rfl⟩ | ⟨ts', hp, hf, rfl⟩
  · exact ⟨rfl, rfl, List.suffix_refl _⟩
  · obtain ⟨p, hp'⟩ := frontT_suffix hf
    exact ⟨rfl, hp, p, hp'.symm⟩

theorem nextBack_toks {s s' : PState} {c : Comp} (h : s.nextBack = some (c, s')) :
    s'.k = s.k ∧ s'.atBeg = s.atBeg ∧ (s'.pre = s.pre ∨ s'.pre = none) ∧ s'.toks <+: s.toks := by
  rcases nextBack_cases h with ⟨ts', _, hb, rfl⟩ | ⟨p, _, _, _, rfl⟩
  · obtain ⟨q, hq⟩ := backT_prefix hb
    exact ⟨rfl, rfl, .inl rfl, q, hq.symm⟩
  · exact ⟨rfl, rfl, .inr rfl, List.prefix_refl _⟩

theorem frontT_WF {f : UInt8 → Bool} {k atBeg : Bool} {ts ts' : List Tok} {c : Comp}
    (h : frontT k atBeg ts = some (c, ts')) (hw : WFToks f ts) : WFToks f ts' := by
  obtain ⟨p, rfl⟩ := frontT_suffix h
  exact WFToks_suffix p hw

theorem backT_WF {f : UInt8 → Bool} {k atBeg : Bool} {ts ts' : List Tok} {c : Comp}
    (h : backT k atBeg ts = some (c, ts')) (hw : WFToks f ts) : WFToks f ts' := by
  obtain ⟨q, rfl⟩ := backT_prefix h
  exact WFToks_prefix ts' hw

/-- the flag `k`, tokens a well-formed piece for the separator set `f`, and the state invariant:
what every step keeps of a fresh parser, whether or not its prefix has been handed out -/
def Reach (f : UInt8 → Bool) (k : Bool) (s : PState) : Prop :=
  s.k = k ∧ WFToks f s.toks ∧ s.Inv

theorem Reach.front {f : UInt8 → Bool} {k : Bool} {s s' : PState} {c : Comp} (hr : Reach f k s)
    (h : s.nextFront = some (c, s')) : Reach f k s' := by
  obtain ⟨hk, hw, hi⟩ := hr
  obtain ⟨h1, _, p, h3⟩ := nextFront_toks h
  exact ⟨h1.trans hk, WFToks_suffix p (h3 ▸ hw), (nextFront_closed hi h).2⟩

theorem Reach.back {f : UInt8 → Bool} {k : Bool} {s s' : PState} {c : Comp} (hr : Reach f k s)
    (h : s.nextBack = some (c, s')) : Reach f k s' := by
  obtain ⟨hk, hw, hi⟩ := hr
  obtain ⟨h1, _, _, q, h3⟩ := nextBack_toks h
  exact ⟨h1.trans hk, WFToks_prefix s'.toks (h3 ▸ hw), (back_comps hi h).2⟩

/-- (R): once the prefix is handed out, tokenising the bytes that remain and reading them as a
fresh path gives the components that remain -/
theorem Reach.reparse {f : UInt8 → Bool} {k : Bool} {s : PState} (hr : Reach f k s) (hp : s.pre = none) :
    compsT k true (toks f s.remaining) = s.comps := by
  obtain ⟨hk, hw, hi⟩ := hr
  rw [comps_eq_closed s hi, PState.closed, PState.remaining, PState.preBytes, hp, hk]
  exact congrArg _ (toks_untoks s.toks hw)

theorem compsT_replace_last {f : UInt8 → Bool} (k : Bool) {r j : List Tok} {s s' : Bytes}
    (hw : WFToks f (r ++ .seg s :: j)) (h1 : s' ≠ []) (h2 : ∀ y ∈ s', f y = false)
    (hc : s' ≠ CUR) (hp : s' ≠ PAR) :
    compsT k true (toks f (untoks r ++ s')) = compsT k true r ++ [.normal s'] := by
  have hw' : WFToks f (r ++ [.seg s]) := WFToks_prefix _ (List.append_cons .. ▸ hw)
  rw [toks_untoks_append_seg r s' (WFToks_replace_last r hw' h1 h2),
    compsT_lastSeg (j := []) r (junk_seg_of_ne hc) (fun _ h => nomatch h), segComp_eq_normal true hc hp]

theorem nextBack_pre_none {s s' : PState} {c : Comp} (hp : s.pre = none) (h : s.nextBack = some (c, s')) :
    s'.pre = none :=
  (nextBack_toks h).2.2.1.elim (·.trans hp) id

end TP
