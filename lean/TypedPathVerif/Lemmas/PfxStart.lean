/-
Lemmas/PfxStart.lean — `C16.pfxStart`, the test "starts like a prefix" (two separators of either
kind, or a letter and `:`).  Where it fails the prefix parser finds nothing, so the path is read like a
Unix path with the separator set `\`, `/`.
-/
import TypedPathVerif.Lemmas.EncNew
import TypedPathVerif.Spec.JoinRules

namespace TP.C16

/-- does the byte string start like a prefix: two separators of either kind, or `X:`.  `= false` is
sufficient for "no prefix", not necessary: `\\` alone or before a third separator starts like a prefix
and has none (K3's territory); the exact condition is `C02c.prefix_none_iff`. -/
def pfxStart : Bytes → Bool
  | a :: b :: _ => (anySep a && anySep b) || (isAsciiAlpha a && b = COLON)
  | _ => false

theorem pfxStart_cons_cons (x y : UInt8) (t : Bytes) :
    pfxStart (x :: y :: t) = ((anySep x && anySep y) || (isAsciiAlpha x && decide (y = COLON))) := rfl

theorem parsePrefix_none_of_pfxStart (b : Bytes) (h : pfxStart b = false) : parsePrefix b = none :=
  Option.eq_none_iff_forall_ne_some.mpr fun ⟨k, rest⟩ hp => by
    -- every prefix text begins with `letter :` or with two separators
    obtain ⟨raw, rfl, hs⟩ := Win.parsePrefix_iff.mp hp
    rcases hs.start with ⟨d, rfl, ha⟩ | ⟨s1, s2, c, t, rfl, h1, h2, _⟩
    · simp [pfxStart, ha] at h
    · simp [pfxStart, h1, h2] at h

theorem pfxStart_prefix (a c : Bytes) (h : pfxStart (a ++ c) = false) : pfxStart a = false := by
  match a with
  | [] => rfl
  | [_] => rfl
  | x :: y :: t => exact h

theorem pfxStart_same_front {C : Bytes} (t t' : Bytes) (hC : C ≠ []) (ht' : t' = [] ∨ t'.head? = some DOT)
    (h : pfxStart (C ++ t) = false) : pfxStart (C ++ t') = false := by
  match C, hC with
  | [c], _ =>
    rcases ht' with rfl | ht'
    · rfl
    · cases t' with
      | nil => cases ht'
      | cons d u =>
        cases Option.some.inj ht'
        have h1 : anySep DOT = false := by decide
        have h2 : (DOT = COLON) = False := by decide
        simp [pfxStart_cons_cons, h1, h2]
  | c1 :: c2 :: _, _ => exact h

theorem parsePrefixComp_none_of_pfxStart (b : Bytes) (h : pfxStart b = false) : parsePrefixComp b = none := by
  unfold parsePrefixComp
  rw [parsePrefix_none_of_pfxStart b h]

theorem win_comps_pf (b : Bytes) (h : pfxStart b = false) :
    comps .windows b = compsT false true (toks (wsep true) b) :=
  comps_of_no_prefix (parsePrefixComp_none_of_pfxStart b h)

end TP.C16

namespace TP.Win

open C16

theorem new_of_pf (b : Bytes) (h : pfxStart b = false) :
    Enc.new .windows b = { pre := none, toks := toks (wsep true) b, atBeg := true, k := false } :=
  new_of_no_prefix (parsePrefixComp_none_of_pfxStart b h)

theorem reach_new_pf {b : Bytes} (h : pfxStart b = false) :
    Reach (wsep true) false (Enc.new .windows b) ∧ (Enc.new .windows b).pre = none := by
  rw [new_of_pf b h]
  exact ⟨⟨rfl, WFToks_toks _ b, Or.inl rfl⟩, rfl⟩

theorem comps_win_nil : comps .windows [] = [] :=
  win_comps_pf [] rfl

theorem comps_win_root : comps .windows [BSLASH] = [.root] := by
  rw [win_comps_pf _ (by decide)]
  decide

theorem prefixOf_none_of_pf (b : Bytes) (h : pfxStart b = false) : JoinRules.prefixOf b = none := by
  unfold JoinRules.prefixOf
  rw [parsePrefixComp_none_of_pfxStart b h]
  rfl

theorem compsT_of_headOK {isSep : UInt8 → Bool} (k : Bool) {b : Bytes} (h : HeadOK isSep b) :
    compsT k true (toks isSep b) = [] ∨ ∃ t, compsT k true (toks isSep b) = .root :: t := by
  cases b with
  | nil => exact Or.inl rfl
  | cons x t =>
    have hx : isSep x = true := h
    right
    rw [toks_cons_sep t hx, compsT_true_cons]
    exact ⟨_, rfl⟩

end TP.Win
