/-
Lemmas/DotSplit.lean — `rsplit_file_at_dot` as a pure list fact: what `Utf8.rsplitAt` (the function over
any element type; the byte family's `rsplitDot` is its instance at bytes) computes on `..`, on a name
without a dot, and on a name cut at its last dot.
-/
import TypedPathVerif.Spec.Chars

namespace TP.Utf8

variable {α : Type} [DecidableEq α]

theorem all_ne_of_not_mem {x : α} {l : List α} (h : x ∉ l) : ∀ a ∈ l, decide (a ≠ x) = true :=
  fun _ ha => decide_eq_true (fun e => h (e ▸ ha))

theorem rsplitAt_par (dot : α) (par : List α) : rsplitAt dot par par = (some par, none) := by
  simp [rsplitAt]

theorem rsplitAt_no_dot (dot : α) (par f : List α) (hp : f ≠ par) (h : dot ∉ f) :
    rsplitAt dot par f = (none, some f) := by
  have : f.reverse.dropWhile (· ≠ dot) = [] := by
    have := List.dropWhile_append_of_pos (l₂ := []) (all_ne_of_not_mem (fun hm => h (List.mem_reverse.mp hm)))
    rwa [List.append_nil] at this
  simp only [rsplitAt, hp, if_false]
  rw [this]

theorem rsplitAt_split (dot : α) (par x y : List α) (hp : x ++ dot :: y ≠ par) (hy : dot ∉ y) :
    rsplitAt dot par (x ++ dot :: y) =
      if x = [] then (some (x ++ dot :: y), none) else (some x, some y) := by
  have hrev : (x ++ dot :: y).reverse = y.reverse ++ dot :: x.reverse := by simp
  have hall : ∀ a ∈ y.reverse, (fun z => decide (z ≠ dot)) a = true :=
    all_ne_of_not_mem (fun hm => hy (List.mem_reverse.mp hm))
  have hd : (y.reverse ++ dot :: x.reverse).dropWhile (· ≠ dot) = dot :: x.reverse := by
    rw [List.dropWhile_append_of_pos hall]; simp
  have ht : (y.reverse ++ dot :: x.reverse).takeWhile (· ≠ dot) = y.reverse := by
    rw [List.takeWhile_append_of_pos hall]; simp
  simp only [rsplitAt, hp, if_false, hrev]
  rw [hd]
  simp only [ht, List.reverse_eq_nil_iff, List.reverse_reverse]

theorem split_last (dot : α) : ∀ (f : List α), dot ∈ f → ∃ x y, f = x ++ dot :: y ∧ dot ∉ y := by
  intro f
  induction f with
  | nil => intro h; cases h
  | cons a t ih =>
    intro h
    by_cases ht : dot ∈ t
    · obtain ⟨x, y, e, hy⟩ := ih ht
      exact ⟨a :: x, y, by rw [e]; rfl, hy⟩
    · have : a = dot := by
        rcases List.mem_cons.mp h with h | h
        · exact h.symm
        · exact absurd h ht
      exact ⟨[], t, by rw [this]; rfl, ht⟩

end TP.Utf8

namespace TP.C14b

open TP.Utf8

/-- the byte family's function is the generic one at bytes -/
theorem rsplitDot_eq_rsplitAt (f : Bytes) : rsplitDot f = rsplitAt DOT PAR f := by
  unfold rsplitDot rsplitAt
  split
  · rfl
  · simp only []
    generalize List.dropWhile (fun x => decide (x ≠ DOT)) f.reverse = d
    cases d <;> rfl

end TP.C14b

namespace TP

open Utf8

/-- The documented split of a file name `f`:
* `..` has no extension and is its own stem;
* a name without a dot, or whose last dot is its first byte, has no extension and is its own stem;
* otherwise `f = before ++ "." ++ after` with `after` dot-free and `before` non-empty. -/
theorem rsplitDot_spec (f : Bytes) :
    (rsplitDot f = (some f, none) ∧ (f = PAR ∨ ∃ t, f = DOT :: t ∧ DOT ∉ t)) ∨
    (rsplitDot f = (none, some f) ∧ DOT ∉ f) ∨
    (∃ before after, rsplitDot f = (some before, some after) ∧ f = before ++ DOT :: after ∧
      DOT ∉ after ∧ before ≠ [] ∧ f ≠ PAR) := by
  rw [C14b.rsplitDot_eq_rsplitAt]
  by_cases hp : f = PAR
  · exact .inl ⟨hp ▸ rsplitAt_par DOT PAR, .inl hp⟩
  by_cases hd : DOT ∈ f
  · obtain ⟨x, y, rfl, hy⟩ := split_last DOT f hd
    rw [rsplitAt_split DOT PAR x y hp hy]
    by_cases hx : x = []
    · subst hx
      exact .inl ⟨rfl, .inr ⟨y, rfl, hy⟩⟩
    · exact .inr (.inr ⟨x, y, by rw [if_neg hx], rfl, hy, hx, hp⟩)
  · exact .inr (.inl ⟨rsplitAt_no_dot DOT PAR f hp hd, hd⟩)

end TP
