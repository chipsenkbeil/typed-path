/-
Lemmas/CombOps.lean — the checked hash loop of `Model/Comb/Ops.lean` never faults and equals the
total model function of `Model/Path.lean`, step by step; Props/C18 draws the conclusion for
`Encoding::hash`.
-/
import TypedPathVerif.Model.Comb.Ops
import TypedPathVerif.Lemmas.WinPush

namespace TP.Comb.Ops

open TP.Comb

/-- the bound the hash loop keeps on `component_start`: it is set to `i + 1`, or to `i + 2` when a `.`
is skipped, with `i < len`; so it may pass `i`, but never `len + 1`.  (The proofs below do not need
it: every slice the loop takes is guarded by a comparison with `i` or with the length.) -/
def HInv (bytes : Bytes) (st : HashSt) : Prop := st.start ≤ bytes.length + 1

theorem hashStepC_eq (isSep : UInt8 → Bool) (skipDot : Bool) (dotSep : UInt8 → Bool) (bytes : Bytes)
    (st : HashSt) (i : Nat) (hi : i < bytes.length) :
    hashStepC isSep skipDot dotSep bytes st i = some (hashStep isSep skipDot dotSep bytes st i) := by
  unfold hashStepC hashStep
  have hidx : idx bytes i = some (bytes.getD i 0) := by
    rw [idx, List.getD, List.getElem?_eq_getElem hi]
    rfl
  have hsf : sliceFrom bytes (i + 1) = some (bytes.drop (i + 1)) := by
    rw [sliceFrom, if_pos (by omega)]
  rw [hidx]
  simp only
  by_cases hs : isSep (bytes.getD i 0) = true
  · -- the slice `component_start..i` is taken only when `i > component_start`
    by_cases hgt : i > st.start
    · have hsl : slice bytes st.start i = some ((bytes.drop st.start).take (i - st.start)) := by
        rw [slice, if_pos ⟨by omega, by omega⟩]
      simp only [hs, if_true, hgt, hsl, hsf]
      rfl
    · simp only [hs, if_true, hgt, if_false, hsf]
      rfl
  · rw [if_neg hs, if_neg hs]

theorem hashLoopC_eq (isSep : UInt8 → Bool) (skipDot : Bool) (dotSep : UInt8 → Bool) (bytes : Bytes) :
    ∀ (is : List Nat) (st : HashSt), (∀ i ∈ is, i < bytes.length) →
      hashLoopC isSep skipDot dotSep bytes is st = some (is.foldl (hashStep isSep skipDot dotSep bytes) st) := by
  intro is
  induction is with
  | nil => intro st _; rfl
  | cons i is ih =>
    intro st h
    simp only [hashLoopC, hashStepC_eq isSep skipDot dotSep bytes st i (h i (by simp)), List.foldl_cons]
    exact ih _ (fun j hj => h j (by simp [hj]))

theorem hashBodyC_eq (isSep : UInt8 → Bool) (skipDot : Bool) (dotSep : UInt8 → Bool) (bytes : Bytes)
    (pre : List Bytes) :
    hashBodyC isSep skipDot dotSep bytes pre = some (hashBody isSep skipDot dotSep bytes pre) := by
  unfold hashBodyC hashBody
  rw [hashLoopC_eq isSep skipDot dotSep bytes _ _ (fun i hi => by simpa using hi)]
  simp only
  split
  · rename_i hlt
    have : sliceFrom bytes ((List.range bytes.length).foldl (hashStep isSep skipDot dotSep bytes) ⟨0, 0, pre⟩).start
        = some (bytes.drop ((List.range bytes.length).foldl (hashStep isSep skipDot dotSep bytes) ⟨0, 0, pre⟩).start) := by
      simp only [sliceFrom, Nat.le_of_lt hlt, if_true]
    simp [this]
  · rfl

/-- `prefix_len` is in range: the prefix a path reports is the one `Parser::new` cut off its front -/
theorem wPrefix_raw_le (b : Bytes) (p : PrefixComp) (h : wPrefix b = some p) : p.raw.length ≤ b.length := by
  obtain ⟨rest, rfl⟩ := C08.prefixOf_some (C08.wPrefix_eq b ▸ h)
  exact Nat.le.intro (List.length_append ..).symm

end TP.Comb.Ops
