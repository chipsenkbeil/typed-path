/-
Lemmas/CombTok.lean — one-token parsers.

Every front parser of the two component-parser files reads exactly ONE token — a separator byte, or
the maximal separator-free run — and classifies it: `tokP sep f`.  On the bytes of a well-formed
token list such a parser looks at the first token and leaves the bytes of the others
(`tokP_toks`: here well-formedness comes in; the loop of `zero_or_more` needs it once more, for its
fuel: every token has a byte), and `any_of!`, `map`, `zero_or_more`, `suffixed`, `fully_consumed` and `a.is_ok() || b.is_ok()` over one-token parsers
are computed here once, for any separator set.  `Lemmas/CombUnix.lean` and `CombWin.lean` then say,
function by function, WHICH one-token parser a Rust function is.
-/
import TypedPathVerif.Lemmas.CombCore
import TypedPathVerif.Lemmas.TokBytes

namespace TP.Comb

/-- end of input, or a separator comes next -/
def atBoundary (sep : UInt8 → Bool) : Bytes → Bool
  | [] => true
  | x :: _ => sep x

def ofOpt {α : Type} (o : Option α) (r : Bytes) : Res α :=
  match o with
  | some v => .ok r v
  | none => .err

/-- the parser that reads exactly one token and classifies it -/
def tokP {α : Type} (sep : UInt8 → Bool) (f : Tok → Option α) : P α := fun i =>
  match i with
  | [] => .err
  | x :: r =>
    if sep x = true then ofOpt (f (.sep x)) r
    else ofOpt (f (.seg (i.takeWhile fun y => !sep y))) (i.dropWhile fun y => !sep y)

/-- what `tokP` does, on tokens -/
def tokT {α : Type} (f : Tok → Option α) : List Tok → Res α
  | t :: r => ofOpt (f t) (untoks r)
  | [] => .err

def segC {α : Type} (g : Bytes → Option α) : Tok → Option α
  | .seg s => g s
  | .sep _ => none

def sepC {α : Type} (v : α) : Tok → Option α
  | .sep _ => some v
  | .seg _ => none

def isPat {α : Type} (pat : Bytes) (c : α) (s : Bytes) : Option α := if s = pat then some c else none

variable {sep : UInt8 → Bool} {α : Type}

theorem tokP_toks (f : Tok → Option α) {ts : List Tok} (hw : WFToks sep ts) :
    tokP sep f (untoks ts) = tokT f ts := by
  match ts, hw with
  | [], _ => rfl
  | .sep x :: r, hw => simp [tokP, tokT, untoks, Tok.bytes, hw.1]
  | .seg (y :: s) :: r, hw =>
    have hy : sep y = false := hw.2.1 y (by simp)
    have h := span_seg hw
    simp only [untoks, Tok.bytes, List.cons_append] at h
    simp only [tokP, tokT, untoks, Tok.bytes, List.cons_append, hy, Bool.false_eq_true, if_false, h.1, h.2]
  | .seg [] :: r, hw => exact absurd rfl hw.1

theorem tokP_progress (f : Tok → Option α) {i i' : Bytes} {v : α}
    (h : tokP sep f i = .ok i' v) : i'.length < i.length := by
  cases i with
  | nil => cases h
  | cons x r =>
    simp only [tokP] at h
    split at h
    · cases hf : f (.sep x) <;> simp only [hf, ofOpt, Res.ok.injEq, reduceCtorEq] at h
      rw [← h.1]
      exact Nat.lt_succ_self _
    · rename_i hx
      cases hf : f (.seg ((x :: r).takeWhile fun y => !sep y)) <;>
        simp only [hf, ofOpt, Res.ok.injEq, reduceCtorEq] at h
      rw [← h.1, List.dropWhile_cons_of_pos (by simpa using hx)]
      exact Nat.lt_succ_of_le (List.dropWhile_sublist _).length_le

theorem atBoundary_iff {r : Bytes} : atBoundary sep r = true ↔ r.takeWhile (fun x => !sep x) = [] := by
  cases r with
  | nil => simp [atBoundary]
  | cons x r => cases h : sep x <;> simp [atBoundary, h]

theorem tokP_segC (g : Bytes → Option α) (hg : g [] = none) (i : Bytes) :
    tokP sep (segC g) i = ofOpt (g (i.takeWhile fun x => !sep x)) (i.dropWhile fun x => !sep x) := by
  cases i with
  | nil => simp [tokP, hg, ofOpt]
  | cons x r => cases hx : sep x <;> simp [tokP, segC, hx, hg, ofOpt]

/-- `bytes(pat)` followed by the test "end of input or a separator" (`cur_dir`, `parent_dir` of
both files) reads the token "segment `pat`": `pat` is a prefix and a boundary follows iff the
maximal separator-free run is `pat` -/
theorem dots_eq_tokP (sep : UInt8 → Bool) (pat : Bytes) (c : α) (hne : pat ≠ [])
    (hns : ∀ y ∈ pat, sep y = false) (i : Bytes) :
    ((bytes pat i).bind fun i _ => if atBoundary sep i = true then Res.ok i c else .err) =
      tokP sep (segC (isPat pat c)) i := by
  rw [bytes_eq, tokP_segC _ (by simp [isPat, Ne.symm hne])]
  unfold isPat
  by_cases hp : pat.isPrefixOf i = true
  · obtain ⟨r, rfl⟩ := List.isPrefixOf_iff_prefix.mp hp
    have hs : ∀ y ∈ pat, (!sep y) = true := fun y hy => by simp [hns y hy]
    have hi : pat ++ r ≠ [] := by simp [hne]
    simp only [ne_eq, hi, not_false_eq_true, hp, and_self, if_true, Res.bind, List.drop_left,
      List.takeWhile_append_of_pos hs, List.dropWhile_append_of_pos hs, List.append_right_eq_self,
      ← atBoundary_iff]
    by_cases hb : atBoundary sep r = true
    · simp only [hb, if_true, dropWhile_of_takeWhile_nil (atBoundary_iff.mp hb), ofOpt]
    · simp [hb, ofOpt]
  · have : i.takeWhile (fun x => !sep x) ≠ pat := fun h =>
      hp (List.isPrefixOf_iff_prefix.mpr (h ▸ List.takeWhile_prefix _))
    simp [hp, Res.bind, this, ofOpt]

/-- `take_until_byte_1(is_sep)`, wrapped: the token "any segment" -/
theorem normal_eq_tokP (i : Bytes) :
    ((takeUntilByte1 sep i).bind fun i n => .ok i (Comp.normal n)) =
      tokP sep (segC fun s => some (.normal s)) i := by
  rw [takeUntilByte1_eq]
  cases i with
  | nil => rfl
  | cons x r => cases hx : sep x <;> simp [tokP, segC, hx, ofOpt, Res.bind]

theorem anyOf_nil_tokP : (anyOf [] : P α) = tokP sep (fun _ => none) := by
  funext i
  cases i with
  | nil => rfl
  | cons x r => cases hx : sep x <;> simp [anyOf, tokP, hx, ofOpt]

theorem anyOf_cons_tokP (f g : Tok → Option α) (ps : List (P α)) (h : anyOf ps = tokP sep g) :
    anyOf (tokP sep f :: ps) = tokP sep (fun t => (f t).orElse fun _ => g t) := by
  funext i
  simp only [anyOf, h]
  cases i with
  | nil => rfl
  | cons x r =>
    cases hx : sep x
    · simp only [tokP, hx, Bool.false_eq_true, if_false]
      cases f (.seg ((x :: r).takeWhile fun y => !sep y)) <;> rfl
    · simp only [tokP, hx, if_true]
      cases f (.sep x) <;> rfl

theorem map_tokP {β : Type} (f : Tok → Option α) (h : α → β) :
    map (tokP sep f) h = tokP sep (fun t => (f t).map h) := by
  funext i
  have : ∀ (o : Option α) (r : Bytes), ((ofOpt o r).bind fun i v => .ok i (h v)) = ofOpt (o.map h) r := by
    intro o r
    cases o <;> rfl
  cases i with
  | nil => rfl
  | cons x r => cases hx : sep x <;> simp only [map, tokP, hx, Bool.false_eq_true, if_false, if_true, this]

theorem sepC_map {β : Type} (v : α) (h : α → β) : (fun t => (sepC v t).map h) = sepC (h v) := by
  funext t
  cases t <;> rfl

/-- the loop of `one_or_more` over a one-token parser eats the tokens it accepts; the fuel
`input.len() + 1` is enough because each of them has a byte -/
theorem loop_tokP (f : Tok → Option α) : ∀ (ts : List Tok), WFToks sep ts → ∀ (fuel : Nat) (acc : List α),
    (ts.takeWhile fun t => (f t).isSome).length + 1 ≤ fuel →
    ∃ vs, oneOrMoreLoop (tokP sep f) fuel (untoks ts) acc =
      .ok (untoks (ts.dropWhile fun t => (f t).isSome)) (acc ++ vs) ∧
      (vs = [] ↔ ts.takeWhile (fun t => (f t).isSome) = [])
  | [], _, fuel + 1, acc, _ => ⟨[], by simp [oneOrMoreLoop, tokP, untoks], by simp⟩
  | t :: r, hw, fuel + 1, acc, hf => by
    simp only [oneOrMoreLoop, tokP_toks f hw, tokT]
    cases hft : f t with
    | none => exact ⟨[], by simp [ofOpt, hft], by simp [hft]⟩
    | some v =>
      simp only [List.takeWhile_cons, hft, Option.isSome_some, if_true, List.length_cons] at hf
      obtain ⟨vs, h1, _⟩ := loop_tokP f r (WFToks_suffix [_] hw) fuel (acc ++ [v]) (by omega)
      exact ⟨v :: vs, by simp [ofOpt, hft, h1], by simp [hft]⟩

theorem skipMany_toks (f : Tok → Option α) {ts : List Tok} (hw : WFToks sep ts) :
    map (zeroOrMore (tokP sep f)) (fun _ => ()) (untoks ts) =
      .ok (untoks (ts.dropWhile fun t => (f t).isSome)) () := by
  have hfuel : (ts.takeWhile fun t => (f t).isSome).length + 1 ≤ (untoks ts).length + 1 := by
    have h1 := (List.takeWhile_prefix (fun t => (f t).isSome) (l := ts)).length_le
    have h2 := length_le_untoks hw
    omega
  obtain ⟨vs, hl, hvs⟩ := loop_tokP f ts hw _ [] hfuel
  simp only [map, zeroOrMore, maybe, oneOrMore, hl, Res.bind, List.nil_append]
  by_cases hv : vs = []
  · simp [hv, dropWhile_of_takeWhile_nil (hvs.mp hv)]
  · simp [hv]

theorem fullyConsumed_tokP (f : Tok → Option α) {s : Bytes} (h1 : s ≠ []) (h2 : ∀ y ∈ s, sep y = false) :
    fullyConsumed (tokP sep f) s = ofOpt (f (.seg s)) [] := by
  have := tokP_toks f (sep := sep) (ts := [.seg s]) ⟨h1, h2, trivial, trivial⟩
  simp only [untoks, Tok.bytes, List.append_nil, tokT] at this
  cases hf : f (.seg s) <;> simp [fullyConsumed, this, hf, ofOpt, Res.bind, empty]

/-- first token of `parse_front`: the root separator at the beginning, else a segment:
`parent_dir`, `cur_dir` where allowed, `normal` -/
def headC (atBeg k : Bool) : Tok → Option Comp
  | .sep _ => if atBeg then some .root else none
  | .seg s => some (segComp (atBeg || k) s)

/-- one step of `move_front_to_next` -/
def junkC (k : Bool) (t : Tok) : Option Unit := if junk k t = true then some () else none

theorem junkC_isSome (k : Bool) : (fun t => (junkC k t).isSome) = junk k := by
  funext t
  unfold junkC
  split <;> simp [*]

/-- `any_of!(separator, cur_dir)`, the parser under `zero_or_more` when `.` is skipped -/
theorem junkC_eq :
    (fun t => (sepC () t).orElse fun _ => ((segC (isPat CUR Comp.cur) t).map fun _ => ()).orElse fun _ => none)
      = junkC false := by
  funext t
  cases t with
  | sep x => rfl
  | seg s => by_cases h : s = CUR <;> simp [sepC, segC, isPat, junkC, junk, h]

/-- `parse_front` of either file: a one-token parser for the component, then `move_front_to_next` -/
theorem G.parseFront_toks {k atBeg : Bool} {hd : P Comp} {m : P Unit} (hhd : hd = tokP sep (headC atBeg k))
    (hm : ∀ {ts : List Tok}, WFToks sep ts → m (untoks ts) = .ok (untoks (skipFront k ts)) ())
    {ts : List Tok} (hw : WFToks sep ts) :
    suffixed hd m (untoks ts) = match frontT k atBeg ts with
      | some (c, ts') => .ok (untoks ts') c
      | none => .err := by
  rw [suffixed, hhd, tokP_toks _ hw]
  match ts, hw with
  | [], _ => rfl
  | .sep _ :: r, hw =>
    cases atBeg
    · rfl
    · simp [tokT, headC, frontT, ofOpt, Res.bind, hm (WFToks_suffix [_] hw)]
  | .seg s :: r, hw => simp [tokT, headC, frontT, ofOpt, Res.bind, hm (WFToks_suffix [_] hw)]

/-- `parent_dir`, then `cur_dir` if allowed, then `normal`: the classification `segComp` of a segment -/
theorem segComp_alts (curOk : Bool) (s : Bytes) :
    ((isPat PAR Comp.parent s).orElse fun _ =>
      (if curOk then isPat CUR Comp.cur s else none).orElse fun _ => some (.normal s)) =
      some (segComp curOk s) := by
  have hcp : CUR ≠ PAR := by decide
  by_cases h1 : s = PAR
  · simp [isPat, segComp, h1]
  · by_cases h2 : s = CUR <;> cases curOk <;> simp [isPat, segComp, h1, h2, hcp]

/-- `parent_dir`, then `cur_dir` if allowed, then `normal` -/
theorem fileC_eq (curOk : Bool) :
    (fun t => (segC (isPat PAR .parent) t).orElse fun _ =>
      (if curOk then segC (isPat CUR .cur) t else none).orElse fun _ =>
        (segC (fun s => some (.normal s)) t).orElse fun _ => none)
      = headC false curOk := by
  funext t
  cases t with
  | sep x => cases curOk <;> rfl
  | seg s => simpa [segC, headC] using segComp_alts curOk s

/-- `root_dir(input).is_ok() || cur_dir(input).is_ok()` -/
theorem orOk_rootCur {γ : Type} {c0 : List Tok} (hw : WFToks sep c0) (K : Bool → Res γ) :
    orOk (tokP sep (sepC Comp.root) (untoks c0)) (fun _ => tokP sep (segC (isPat CUR Comp.cur)) (untoks c0)) K =
      K (startsRootOrCur c0) := by
  rw [tokP_toks _ hw, tokP_toks _ hw]
  match c0 with
  | [] => rfl
  | .sep _ :: _ => rfl
  | .seg s :: _ => by_cases h : s = CUR <;> simp [tokT, orOk, ofOpt, sepC, segC, isPat, startsRootOrCur, h]

end TP.Comb
