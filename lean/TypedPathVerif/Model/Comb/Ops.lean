/-
Model/Comb/Ops.lean — the partial operations OUTSIDE the parsers, with checked indices and
checked `usize` arithmetic (`none` = the Rust code would panic):

* `Encoding::hash` of both encodings: `path[i]`, `&path[component_start..i]`,
  `&path[component_start..]`, `&path[prefix_len..]`;
* `Encoding::push_checked` of both encodings: `normal_cnt -= 1`.

(`PathBuf::set_extension`'s `end_file_stem - start` and its `truncate` have no transcription here: that
site is covered on the token-level model, `C18.set_ext_cut_in_range`.)
-/
import TypedPathVerif.Model.Comb.Core
import TypedPathVerif.Model.Path

namespace TP.Comb.Ops

open TP TP.Comb

/-- `bytes[i]` -/
def idx (b : Bytes) (i : Nat) : Option UInt8 := b[i]?

/-- `&bytes[a..b]` -/
def slice (b : Bytes) (lo hi : Nat) : Option Bytes :=
  if lo ≤ hi ∧ hi ≤ b.length then some ((b.drop lo).take (hi - lo)) else none

/-- one iteration of the `for i in 0..bytes.len()` loop of `Encoding::hash`, every index checked -/
def hashStepC (isSep : UInt8 → Bool) (skipDot : Bool) (dotSep : UInt8 → Bool) (bytes : Bytes)
    (st : HashSt) (i : Nat) : Option HashSt :=
  match idx bytes i with
  | none => none
  | some x =>
    if isSep x then
      let st1? : Option HashSt :=
        if i > st.start then
          match slice bytes st.start i with
          | some seg => some { st with hashed := st.hashed + seg.length, out := st.out ++ [seg] }
          | none => none
        else some st
      match st1? with
      | none => none
      | some st1 =>
        let start := i + 1
        match sliceFrom bytes start with
        | none => none
        | some tail =>
          let extra : Nat :=
            if skipDot then
              match tail with
              | [d] => if d = DOT then 1 else 0
              | d :: s :: _ => if d = DOT ∧ dotSep s = true then 1 else 0
              | _ => 0
            else 0
          some { st1 with start := start + extra }
    else some st

/-- the loop: stops at the first fault -/
def hashLoopC (isSep : UInt8 → Bool) (skipDot : Bool) (dotSep : UInt8 → Bool) (bytes : Bytes) :
    List Nat → HashSt → Option HashSt
  | [], st => some st
  | i :: is, st =>
    match hashStepC isSep skipDot dotSep bytes st i with
    | some st' => hashLoopC isSep skipDot dotSep bytes is st'
    | none => none

def hashBodyC (isSep : UInt8 → Bool) (skipDot : Bool) (dotSep : UInt8 → Bool) (bytes : Bytes)
    (pre : List Bytes) : Option (List Bytes) :=
  match hashLoopC isSep skipDot dotSep bytes (List.range bytes.length) ⟨0, 0, pre⟩ with
  | none => none
  | some st =>
    if st.start < bytes.length then
      match sliceFrom bytes st.start with
      | some seg => some (st.out ++ [seg] ++ [usizeChunk (st.hashed + seg.length)])
      | none => none
    else some (st.out ++ [usizeChunk st.hashed])

/-- `Encoding::hash` with checked indexing (`&path[prefix_len..]` included) -/
def hashChunksC : Enc → Bytes → Option (List Bytes)
  | .unix, b => hashBodyC usep true usep b []
  | .windows, b =>
    match wPrefix b with
    | some p =>
      let verbatim := startsWith b VERB
      match sliceFrom b p.raw.length with
      | some bytes => hashBodyC (wsep (!verbatim)) (!verbatim) anySep bytes p.kind.hashChunks
      | none => none
    | none => hashBodyC (wsep true) true anySep b []

/-- the scan of `push_checked` with `normal_cnt -= 1` as a checked subtraction; the outer `Option`
is the fault -/
def checkedScanC (e : Enc) : Nat → List Comp → Option (Option CheckedErr)
  | _, [] => some none
  | n, c :: cs =>
    match c with
    | .pfx _ => some (some .unexpectedPrefix)
    | .root => some (some .unexpectedRoot)
    | .parent =>
      if n = 0 then some (some .pathTraversal)
      else
        match checkedSub n 1 with
        | some m => checkedScanC e m cs
        | none => none
    | .normal s =>
      if s.any (fun b => (forbidden e).contains b) then some (some .invalidFilename)
      else checkedScanC e (n + 1) cs
    | .cur => checkedScanC e n cs

end TP.Comb.Ops
