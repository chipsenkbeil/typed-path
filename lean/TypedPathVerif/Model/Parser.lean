/-
Model/Parser.lean — the double-ended component parser, on tokens.

Read against `src/unix/non_utf8/components/parser.rs` and
`src/windows/non_utf8/components/parser.rs`; the two Rust files are near copies and the
model has one parser with a flag `k` ("keep `.`": Windows without normalisation, i.e.
input starting with exactly `\\?\`; always `false` for Unix) and an optional pre-parsed
prefix (always `none` for Unix).
-/
import TypedPathVerif.Model.Basic

namespace TP

/-- Tokens skipped between components: separators, and `.` segments unless `k`
(`move_front_to_next` / `move_back_to_next`). -/
def junk (k : Bool) : Tok → Bool
  | .sep _ => true
  | .seg s => !k && decide (s = CUR)

/-- `move_front_to_next` -/
def skipFront (k : Bool) (ts : List Tok) : List Tok := ts.dropWhile (junk k)

/-- `move_back_to_next` -/
def skipBack (k : Bool) (ts : List Tok) : List Tok := (ts.reverse.dropWhile (junk k)).reverse

/-- Classification of a segment: `parent_dir`, then `cur_dir` where allowed, then `normal`. -/
def segComp (curOk : Bool) (s : Bytes) : Comp :=
  if s = PAR then .parent else if s = CUR ∧ curOk = true then .cur else .normal s

/-- `parse_front(state)`: at the beginning `root_dir | cur_dir | parent_dir | normal`,
afterwards `parent_dir | (cur_dir if k) | normal`; then `move_front_to_next`. -/
def frontT (k atBeg : Bool) : List Tok → Option (Comp × List Tok)
  | [] => none
  | .sep _ :: r => if atBeg then some (.root, skipFront k r) else none
  | .seg s :: r => some (segComp (atBeg || k) s, skipFront k r)

/-- `root_dir(input).is_ok() || cur_dir(input).is_ok()` -/
def startsRootOrCur : List Tok → Bool
  | .sep _ :: _ => true
  | .seg s :: _ => decide (s = CUR)
  | [] => false

/-- `parse_back(state)`: trim trailing junk; if at the beginning and nothing is left, ask
the front parser (only root / `.` remain); otherwise take the last segment, trim again,
but keep the first token when at the beginning and everything else was junk
("Preserve root dir!"). -/
def backT (k atBeg : Bool) (ts : List Tok) : Option (Comp × List Tok) :=
  let t1 := skipBack k ts
  if atBeg ∧ t1 = [] then
    (frontT k atBeg ts).map (fun p => (p.1, []))
  else
    match t1.getLast? with
    | some (.seg s) =>
      let r := t1.dropLast
      let r' := skipBack k r
      some (segComp k s, if atBeg ∧ startsRootOrCur r = true ∧ r' = [] then r.take 1 else r')
    | _ => none

/-- Parser state (`Parser<'a>` of either encoding). `remaining()` is the prefix text (if
not yet handed out) followed by the bytes of the remaining tokens. -/
structure PState where
  pre : Option PrefixComp
  toks : List Tok
  atBeg : Bool
  k : Bool
  deriving Repr, DecidableEq

def PState.preBytes (s : PState) : Bytes :=
  match s.pre with
  | some p => p.raw
  | none => []

/-- `Parser::remaining` -/
def PState.remaining (s : PState) : Bytes := s.preBytes ++ untoks s.toks

/-- `Parser::next_front` -/
def PState.nextFront (s : PState) : Option (Comp × PState) :=
  match s.pre with
  | some p => some (.pfx p, { s with pre := none })
  | none =>
    match frontT s.k s.atBeg s.toks with
    | some (c, ts) => some (c, { s with toks := ts, atBeg := false })
    | none => none

/-- `Parser::next_back` -/
def PState.nextBack (s : PState) : Option (Comp × PState) :=
  if s.toks ≠ [] then
    match backT s.k s.atBeg s.toks with
    | some (c, ts) => some (c, { s with toks := ts })
    | none => none
  else
    match s.pre with
    | some p => some (.pfx p, { s with pre := none })
    | none => none

/-- Size used for termination: one for a pending prefix plus the number of tokens. -/
def PState.size (s : PState) : Nat := (if s.pre.isSome then 1 else 0) + s.toks.length

/-! ### junk skipping

Every law of the back parser rests on one decomposition (`junk_or_lastSeg`): a token list is all
junk, or it has a last non-junk token — a segment, since separators are junk — followed by junk
only. -/

theorem junk_iff {k : Bool} {t : Tok} :
    junk k t = true ↔ (∃ x, t = .sep x) ∨ (k = false ∧ t = .seg CUR) := by
  cases t with
  | sep x => simp [junk]
  | seg s => cases k <;> simp [junk]

theorem junk_true_iff (t : Tok) : junk true t = true ↔ ∃ x, t = .sep x :=
  junk_iff.trans (or_iff_left fun h => Bool.noConfusion h.1)

theorem junk_false_of_true {t : Tok} (h : junk true t = true) : junk false t = true := by
  obtain ⟨x, rfl⟩ := (junk_true_iff t).mp h
  rfl

theorem junk_snoc_sep {k : Bool} {j : List Tok} (x : UInt8) (hj : ∀ t ∈ j, junk k t = true) :
    ∀ t ∈ j ++ [Tok.sep x], junk k t = true := by
  intro t ht
  rcases List.mem_append.mp ht with h | h
  · exact hj t h
  · cases List.mem_singleton.mp h
    rfl

theorem skipBack_append_junk {k : Bool} (r : List Tok) {j : List Tok}
    (hj : ∀ t ∈ j, junk k t = true) : skipBack k (r ++ j) = skipBack k r := by
  unfold skipBack
  rw [List.reverse_append, List.dropWhile_append_of_pos (fun t ht => hj t (List.mem_reverse.mp ht))]

theorem skipBack_concat {k : Bool} (r : List Tok) {t : Tok} (h : junk k t = false) :
    skipBack k (r ++ [t]) = r ++ [t] := by
  simp [skipBack, h]

theorem skipBack_all_junk {k : Bool} {ts : List Tok} (h : ∀ t ∈ ts, junk k t = true) :
    skipBack k ts = [] := by
  simpa [skipBack] using skipBack_append_junk (k := k) [] h

theorem junk_or_lastSeg (k : Bool) (ts : List Tok) :
    (∀ t ∈ ts, junk k t = true) ∨
    ∃ r s j, ts = r ++ .seg s :: j ∧ junk k (.seg s) = false ∧ ∀ t ∈ j, junk k t = true := by
  induction ts with
  | nil => exact .inl (by simp)
  | cons t ts ih =>
    rcases ih with h | ⟨r, s, j, rfl, hs, hj⟩
    · cases ht : junk k t with
      | true => exact .inl (by simpa [ht] using h)
      | false =>
        cases t with
        | sep x => cases ht
        | seg s => exact .inr ⟨[], s, ts, rfl, ht, h⟩
    · exact .inr ⟨t :: r, s, j, rfl, hs, hj⟩

theorem skipBack_lastSeg {k : Bool} (r : List Tok) {s : Bytes} {j : List Tok}
    (hs : junk k (.seg s) = false) (hj : ∀ t ∈ j, junk k t = true) :
    skipBack k (r ++ .seg s :: j) = r ++ [.seg s] := by
  rw [List.append_cons, skipBack_append_junk _ hj, skipBack_concat _ hs]

theorem skipBack_split (k : Bool) (ts : List Tok) :
    ∃ j, ts = skipBack k ts ++ j ∧ ∀ t ∈ j, junk k t = true := by
  rcases junk_or_lastSeg k ts with h | ⟨r, s, j, rfl, hs, hj⟩
  · exact ⟨ts, by rw [skipBack_all_junk h]; rfl, h⟩
  · exact ⟨j, by rw [skipBack_lastSeg r hs hj, ← List.append_cons], hj⟩

theorem skipBack_eq_nil_iff {k : Bool} {ts : List Tok} :
    skipBack k ts = [] ↔ ∀ t ∈ ts, junk k t = true := by
  refine ⟨fun h => ?_, skipBack_all_junk⟩
  obtain ⟨j, hj, hjunk⟩ := skipBack_split k ts
  rw [h] at hj
  exact hj ▸ hjunk

/-! ### the front parser on a non-empty list -/

/-- the first component of a path -/
def headComp : Tok → Comp
  | .sep _ => .root
  | .seg s => segComp true s

theorem frontT_cons_true (k : Bool) (t : Tok) (r : List Tok) :
    frontT k true (t :: r) = some (headComp t, skipFront k r) := by
  cases t <;> rfl

theorem frontT_eq_some {k atBeg : Bool} {ts ts' : List Tok} {c : Comp}
    (h : frontT k atBeg ts = some (c, ts')) : ∃ t r, ts = t :: r ∧ ts' = skipFront k r := by
  cases ts with
  | nil => cases h
  | cons t r =>
    refine ⟨t, r, rfl, ?_⟩
    cases t with
    | sep b =>
      simp only [frontT] at h
      split at h
      · cases h
        rfl
      · cases h
    | seg s =>
      cases h
      rfl

theorem frontT_suffix {k atBeg : Bool} {ts ts' : List Tok} {c : Comp}
    (h : frontT k atBeg ts = some (c, ts')) : ∃ p, ts = p ++ ts' := by
  obtain ⟨t, r, rfl, rfl⟩ := frontT_eq_some h
  exact ⟨t :: r.takeWhile (junk k), by simp [skipFront, List.takeWhile_append_dropWhile]⟩

theorem frontT_length {k atBeg : Bool} {ts ts' : List Tok} {c : Comp}
    (h : frontT k atBeg ts = some (c, ts')) : ts'.length < ts.length := by
  obtain ⟨t, r, rfl, rfl⟩ := frontT_eq_some h
  exact Nat.lt_succ_of_le (List.dropWhile_suffix _).length_le

/-! ### the back parser, completely: two equations -/

theorem startsRootOrCur_of_junk {k : Bool} {t : Tok} {r : List Tok} (h : junk k t = true) :
    startsRootOrCur (t :: r) = true := by
  rcases junk_iff.mp h with ⟨x, rfl⟩ | ⟨_, rfl⟩ <;> rfl

/-- What a back step leaves of the tokens `r` in front of the segment it returns: trailing junk
goes; at the beginning of the path a first token that would go with it (the root separator or a
leading `.`) stays.  The root-or-`.` test of `backT` does not appear: a non-empty all-junk list
starts with one of the two. -/
def trimBack (k atBeg : Bool) (r : List Tok) : List Tok :=
  if atBeg = true ∧ skipBack k r = [] then r.take 1 else skipBack k r

theorem trimBack_split (k atBeg : Bool) (r : List Tok) :
    ∃ q, r = trimBack k atBeg r ++ q ∧ ∀ t ∈ q, junk k t = true := by
  unfold trimBack
  split
  · rename_i h
    exact ⟨r.drop 1, (List.take_append_drop 1 r).symm,
      fun t ht => skipBack_eq_nil_iff.mp h.2 t (List.mem_of_mem_drop ht)⟩
  · exact skipBack_split k r

theorem backT_all_junk {k atBeg : Bool} {ts : List Tok} (h : ∀ t ∈ ts, junk k t = true) :
    backT k atBeg ts = if atBeg then ts.head?.map (fun t => (headComp t, [])) else none := by
  unfold backT
  simp only [skipBack_all_junk h]
  cases atBeg with
  | false => simp
  | true =>
    cases ts with
    | nil => simp [frontT]
    | cons t r => simp [frontT_cons_true]

theorem backT_lastSeg {k atBeg : Bool} (r : List Tok) {s : Bytes} {j : List Tok}
    (hs : junk k (.seg s) = false) (hj : ∀ t ∈ j, junk k t = true) :
    backT k atBeg (r ++ .seg s :: j) = some (segComp k s, trimBack k atBeg r) := by
  unfold backT trimBack
  simp only [skipBack_lastSeg r hs hj, List.getLast?_concat, List.dropLast_concat]
  have hsr : skipBack k r = [] → r ≠ [] → startsRootOrCur r = true := by
    intro h hne
    cases r with
    | nil => exact absurd rfl hne
    | cons t r0 => exact startsRootOrCur_of_junk (skipBack_eq_nil_iff.mp h t (by simp))
  by_cases h0 : skipBack k r = []
  · by_cases hr : r = []
    · subst hr
      simp [skipBack]
    · simp [h0, hsr h0 hr]
  · simp [h0]

theorem backT_append_sep (k : Bool) (ts : List Tok) (x : UInt8) (hne : ts ≠ []) :
    backT k true (ts ++ [.sep x]) = backT k true ts := by
  rcases junk_or_lastSeg k ts with hj | ⟨r, s, j, rfl, hs, hj⟩
  · rw [backT_all_junk hj, backT_all_junk (junk_snoc_sep x hj)]
    cases ts with
    | nil => exact absurd rfl hne
    | cons t r => rfl
  · rw [List.append_assoc, List.cons_append, backT_lastSeg r hs hj, backT_lastSeg r hs (junk_snoc_sep x hj)]

theorem backT_cases {k atBeg : Bool} {ts ts' : List Tok} {c : Comp}
    (h : backT k atBeg ts = some (c, ts')) :
    (atBeg = true ∧ ts' = [] ∧ ∃ t r, ts = t :: r ∧ c = headComp t ∧ ∀ x ∈ t :: r, junk k x = true) ∨
    (∃ r s j, ts = r ++ .seg s :: j ∧ junk k (.seg s) = false ∧ (∀ t ∈ j, junk k t = true) ∧
      c = segComp k s ∧ ts' = trimBack k atBeg r) := by
  rcases junk_or_lastSeg k ts with hj | ⟨r, s, j, rfl, hs, hj⟩
  · rw [backT_all_junk hj] at h
    cases atBeg with
    | false => simp at h
    | true =>
      cases ts with
      | nil => simp at h
      | cons t r =>
        simp only [if_true, List.head?_cons, Option.map_some, Option.some.injEq, Prod.mk.injEq] at h
        exact .inl ⟨rfl, h.2.symm, t, r, rfl, h.1.symm, hj⟩
  · rw [backT_lastSeg r hs hj] at h
    simp only [Option.some.injEq, Prod.mk.injEq] at h
    exact .inr ⟨r, s, j, rfl, hs, hj, h.1.symm, h.2.symm⟩

/-- What remains after a back step is a proper leading part of the tokens: termination
(`backT_length`), contiguity (`backT_prefix`) and strict shortening all come from this. -/
theorem backT_proper_prefix {k atBeg : Bool} {ts ts' : List Tok} {c : Comp}
    (h : backT k atBeg ts = some (c, ts')) : ∃ q, q ≠ [] ∧ ts = ts' ++ q := by
  rcases backT_cases h with ⟨_, rfl, t, r, rfl, _, _⟩ | ⟨r, s, j, rfl, _, _, _, rfl⟩
  · exact ⟨t :: r, by simp, rfl⟩
  · obtain ⟨q, hq, _⟩ := trimBack_split k atBeg r
    exact ⟨q ++ .seg s :: j, by simp, by rw [← List.append_assoc, ← hq]⟩

theorem backT_prefix {k atBeg : Bool} {ts ts' : List Tok} {c : Comp}
    (h : backT k atBeg ts = some (c, ts')) : ∃ q, ts = ts' ++ q := by
  obtain ⟨q, _, hq⟩ := backT_proper_prefix h
  exact ⟨q, hq⟩

theorem backT_length {k atBeg : Bool} {ts ts' : List Tok} {c : Comp}
    (h : backT k atBeg ts = some (c, ts')) : ts'.length < ts.length := by
  obtain ⟨q, hq, rfl⟩ := backT_proper_prefix h
  have := List.length_pos_iff.mpr hq
  simp only [List.length_append]
  omega

/-! ### steps of a state, by cases -/

theorem nextFront_cases {s s' : PState} {c : Comp} (h : s.nextFront = some (c, s')) :
    (∃ p, s.pre = some p ∧ c = .pfx p ∧ s' = { s with pre := none }) ∨
    (∃ ts', s.pre = none ∧ frontT s.k s.atBeg s.toks = some (c, ts') ∧
      s' = { s with toks := ts', atBeg := false }) := by
  unfold PState.nextFront at h
  cases hp : s.pre with
  | some p =>
    rw [hp] at h
    cases h
    exact .inl ⟨p, rfl, rfl, rfl⟩
  | none =>
    rw [hp] at h
    cases hf : frontT s.k s.atBeg s.toks with
    | none =>
      rw [hf] at h
      cases h
    | some r =>
      rw [hf] at h
      cases h
      exact .inr ⟨_, rfl, rfl, rfl⟩

theorem nextBack_cases {s s' : PState} {c : Comp} (h : s.nextBack = some (c, s')) :
    (∃ ts', s.toks ≠ [] ∧ backT s.k s.atBeg s.toks = some (c, ts') ∧ s' = { s with toks := ts' }) ∨
    (∃ p, s.toks = [] ∧ s.pre = some p ∧ c = .pfx p ∧ s' = { s with pre := none }) := by
  unfold PState.nextBack at h
  split at h
  · rename_i hne
    cases hb : backT s.k s.atBeg s.toks with
    | none =>
      rw [hb] at h
      cases h
    | some r =>
      rw [hb] at h
      cases h
      exact .inl ⟨_, hne, rfl, rfl⟩
  · rename_i he
    cases hp : s.pre with
    | none =>
      rw [hp] at h
      cases h
    | some p =>
      rw [hp] at h
      cases h
      exact .inr ⟨p, by simpa using he, rfl, rfl, rfl⟩

theorem nextBack_of_toks {s : PState} (h : s.toks ≠ []) :
    s.nextBack = (backT s.k s.atBeg s.toks).map fun r => (r.1, { s with toks := r.2 }) := by
  unfold PState.nextBack
  rw [if_pos h]
  cases backT s.k s.atBeg s.toks <;> rfl

theorem nextFront_size {s s' : PState} {c : Comp} (h : s.nextFront = some (c, s')) :
    s'.size < s.size := by
  rcases nextFront_cases h with ⟨p, hp, _, rfl⟩ | ⟨ts', hp, hf, rfl⟩
  · simp [PState.size, hp]
  · simpa [PState.size, hp] using frontT_length hf

theorem nextBack_size {s s' : PState} {c : Comp} (h : s.nextBack = some (c, s')) :
    s'.size < s.size := by
  rcases nextBack_cases h with ⟨ts', _, hb, rfl⟩ | ⟨p, _, hp, _, rfl⟩
  · have := backT_length hb
    simp only [PState.size]
    omega
  · simp [PState.size, hp]

/-- All components from the front: what `Iterator::collect` on `Components` yields. -/
def PState.comps (s : PState) : List Comp :=
  match h : s.nextFront with
  | none => []
  | some (c, s') => c :: s'.comps
termination_by s.size
decreasing_by exact nextFront_size h

/-- All components from the back (the order `rev()` yields them). -/
def PState.compsBack (s : PState) : List Comp :=
  match h : s.nextBack with
  | none => []
  | some (c, s') => c :: s'.compsBack
termination_by s.size
decreasing_by exact nextBack_size h

end TP
