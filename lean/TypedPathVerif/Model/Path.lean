/-
Model/Path.lean — `Components` queries, `Encoding::{push, push_checked, hash}` and the
`Path` / `PathBuf` operations, generic over the encoding tag.

Read against `src/{unix,windows}/non_utf8.rs`, `src/{unix,windows}/non_utf8/components.rs`,
`src/common/non_utf8/{path,pathbuf}.rs` (with the `fix:` commits applied).
-/
import TypedPathVerif.Model.Enc
import TypedPathVerif.Generated.Constants

namespace TP

/-! ## Components queries -/

def comps (e : Enc) (b : Bytes) : List Comp := (e.new b).comps

/-- `WindowsComponents::prefix` (peek front) -/
def wPrefix (b : Bytes) : Option PrefixComp :=
  match (Enc.new .windows b).nextFront with
  | some (.pfx p, _) => some p
  | _ => none

def wPrefixKind (b : Bytes) : Option WPrefix := (wPrefix b).map (·.kind)
def wPrefixLen (b : Bytes) : Nat := match wPrefix b with | some p => p.raw.length | none => 0
def wHasPrefix (b : Bytes) : Bool := (wPrefix b).isSome

/-- `has_any_verbatim_prefix`; the kind list is generated from the `matches!` arms. -/
def wHasAnyVerbatimPrefix (b : Bytes) : Bool :=
  match wPrefixKind b with
  | some k => Generated.anyVerbatimTags.contains k.tag
  | none => false

def wHasKindIn (tags : List Nat) (b : Bytes) : Bool :=
  match wPrefixKind b with
  | some k => tags.contains k.tag
  | none => false

/-- `has_physical_root` -/
def wHasPhysicalRoot (b : Bytes) : Bool :=
  match (Enc.new .windows b).nextFront with
  | some (.root, _) => true
  | some (.pfx _, s) => match s.nextFront with | some (.root, _) => true | _ => false
  | _ => false

/-- `has_implicit_root` -/
def wHasImplicitRoot (b : Bytes) : Bool :=
  match wPrefixKind b with
  | some (.disk _) => false
  | none => false
  | some _ => true

/-- `is_only_disk` -/
def wIsOnlyDisk (b : Bytes) : Bool :=
  wHasKindIn Generated.diskTags b &&
    match (Enc.new .windows b).nextFront with
    | some (_, s) => s.nextFront.isNone
    | none => true

/-- `Components::has_root` -/
def hasRoot : Enc → Bytes → Bool
  | .unix, b => match (Enc.new .unix b).nextFront with | some (.root, _) => true | _ => false
  | .windows, b =>
    match (Enc.new .windows b).nextFront with
    | some (.root, _) => true
    | some (.pfx p, s) =>
      match p.kind with
      | .disk _ | .verbatimDisk _ => match s.nextFront with | some (.root, _) => true | _ => false
      | _ => true
    | _ => false

/-- `Components::is_absolute` -/
def isAbsolute : Enc → Bytes → Bool
  | .unix, b => hasRoot .unix b
  | .windows, b =>
    match (Enc.new .windows b).nextFront with
    | some (.pfx _, s) => match s.nextFront with | some (.root, _) => true | _ => false
    | _ => false

/-! ## Validity, checked push -/

def forbidden : Enc → List UInt8
  | .unix => Generated.unixDisallowedBytes
  | .windows => Generated.windowsDisallowedBytes

/-- `Component::is_valid` -/
def Comp.isValid (e : Enc) : Comp → Bool
  | .normal s => !s.any (fun b => (forbidden e).contains b)
  | _ => true

/-- `Path::is_valid` -/
def isValid (e : Enc) (b : Bytes) : Bool := (comps e b).all (Comp.isValid e)

inductive CheckedErr where
  | invalidFilename | pathTraversal | unexpectedPrefix | unexpectedRoot
  deriving DecidableEq, Repr, Inhabited

/-- The scan of `push_checked` over the argument's components (`n` = `normal_cnt`). -/
def checkedScan (e : Enc) : Nat → List Comp → Option CheckedErr
  | _, [] => none
  | n, c :: cs =>
    match c with
    | .pfx _ => some .unexpectedPrefix
    | .root => some .unexpectedRoot
    | .parent => if n = 0 then some .pathTraversal else checkedScan e (n - 1) cs
    | .normal s =>
      if s.any (fun b => (forbidden e).contains b) then some .invalidFilename
      else checkedScan e (n + 1) cs
    | .cur => checkedScan e n cs

/-! ## push -/

def unixPush (cur p : Bytes) : Bytes :=
  if p = [] then cur
  else if isAbsolute .unix p then p
  else if cur ≠ [] ∧ cur.getLast? ≠ some SLASH then cur ++ [SLASH] ++ p
  else cur ++ p

/-- The buffer of components built under a verbatim prefix. -/
def verbatimFold (buffer : List Comp) : List Comp → List Comp
  | [] => buffer
  | c :: cs =>
    match c with
    | .root => verbatimFold (buffer.take 1 ++ [c]) cs
    | .cur => verbatimFold buffer cs
    | .parent =>
      match buffer.getLast? with
      | some (.normal _) => verbatimFold buffer.dropLast cs
      | _ => verbatimFold buffer cs
    | _ => verbatimFold (buffer ++ [c]) cs

/-- Re-rendering of the buffer (`need_sep` loop). -/
def verbatimRender : Bool → List Comp → Bytes
  | _, [] => []
  | needSep, c :: cs =>
    (if needSep ∧ c ≠ .root then [BSLASH] else []) ++ c.bytes .windows ++
      verbatimRender
        (match c with
         | .root => false
         | .pfx p => (match p.kind with | .disk _ => false | _ => true)
         | _ => true) cs

def windowsPush (cur p : Bytes) : Bytes :=
  if p = [] then cur
  else if isAbsolute .windows p || wHasPrefix p then p
  else if wHasAnyVerbatimPrefix cur then
    verbatimRender false (verbatimFold (comps .windows cur) (comps .windows p))
  else if hasRoot .windows p then cur.take (wPrefixLen cur) ++ p
  else
    let needsSep := (cur ≠ [] ∧ cur.getLast? ≠ some BSLASH ∧ cur.getLast? ≠ some SLASH)
      ∧ ¬ (wIsOnlyDisk cur = true)
    if needsSep then cur ++ [BSLASH] ++ p else cur ++ p

/-- `Encoding::push` -/
def push : Enc → Bytes → Bytes → Bytes
  | .unix => unixPush
  | .windows => windowsPush

/-- `Encoding::push_checked`: `Except`-like result, the buffer is untouched on error. -/
def pushChecked (e : Enc) (cur p : Bytes) : Except CheckedErr Bytes :=
  match checkedScan e 0 (comps e p) with
  | some err => .error err
  | none => .ok (push e cur p)

/-! ## hash (the exact sequence of `Hasher::write` chunks) -/

def leBytes (n : Nat) : Nat → Bytes
  | 0 => []
  | w + 1 => UInt8.ofNat (n % 256) :: leBytes (n / 256) w

/-- `write_usize` / `write_isize` on the 64-bit target the harness runs on -/
def usizeChunk (n : Nat) : Bytes := leBytes n 8

/-- `<[u8] as Hash>::hash`: length prefix, then the bytes -/
def sliceChunks (s : Bytes) : List Bytes := [usizeChunk s.length, s]

/-- `#[derive(Hash)]` on `WindowsPrefix`: discriminant as `isize`, then the fields -/
def WPrefix.hashChunks : WPrefix → List Bytes
  | .verbatim a => usizeChunk 0 :: sliceChunks a
  | .verbatimUNC a b => usizeChunk 1 :: (sliceChunks a ++ sliceChunks b)
  | .verbatimDisk d => [usizeChunk 2, [d]]
  | .deviceNS a => usizeChunk 3 :: sliceChunks a
  | .unc a b => usizeChunk 4 :: (sliceChunks a ++ sliceChunks b)
  | .disk d => [usizeChunk 5, [d]]

structure HashSt where
  start : Nat
  hashed : Nat
  out : List Bytes

/-- One iteration of the `for i in 0..bytes.len()` loop of `Encoding::hash`. -/
def hashStep (isSep : UInt8 → Bool) (skipDot : Bool) (dotSep : UInt8 → Bool) (bytes : Bytes)
    (st : HashSt) (i : Nat) : HashSt :=
  if isSep (bytes.getD i 0) then
    let st1 : HashSt :=
      if i > st.start then
        let seg := (bytes.drop st.start).take (i - st.start)
        { st with hashed := st.hashed + seg.length, out := st.out ++ [seg] }
      else st
    let start := i + 1
    let tail := bytes.drop start
    let extra : Nat :=
      if skipDot then
        match tail with
        | [d] => if d = DOT then 1 else 0
        | d :: s :: _ => if d = DOT ∧ dotSep s = true then 1 else 0
        | _ => 0
      else 0
    { st1 with start := start + extra }
  else st

def hashBody (isSep : UInt8 → Bool) (skipDot : Bool) (dotSep : UInt8 → Bool) (bytes : Bytes)
    (pre : List Bytes) : List Bytes :=
  let st := (List.range bytes.length).foldl (hashStep isSep skipDot dotSep bytes) ⟨0, 0, pre⟩
  let st :=
    if st.start < bytes.length then
      let seg := bytes.drop st.start
      { st with hashed := st.hashed + seg.length, out := st.out ++ [seg] }
    else st
  st.out ++ [usizeChunk st.hashed]

/-- `Encoding::hash` -/
def hashChunks : Enc → Bytes → List Bytes
  | .unix, b => hashBody usep true usep b []
  | .windows, b =>
    match wPrefix b with
    | some p =>
      let verbatim := startsWith b VERB
      hashBody (wsep (!verbatim)) (!verbatim) anySep (b.drop p.raw.length) p.kind.hashChunks
    | none => hashBody (wsep true) true anySep b []

/-! ## Path queries -/

/-- `Path::parent` (after the `fix:` — only a normal / `.` / `..` last component has one) -/
def parent (e : Enc) (b : Bytes) : Option Bytes :=
  match (e.new b).nextBack with
  | some (c, s) => if c.isNormal || c.isCur || c.isParent then some s.remaining else none
  | none => none

/-- `Path::file_name` -/
def fileName (e : Enc) (b : Bytes) : Option Bytes :=
  match (e.new b).nextBack with
  | some (.normal s, _) => some s
  | _ => none

/-- `helpers::rsplit_file_at_dot` -/
def rsplitDot (f : Bytes) : Option Bytes × Option Bytes :=
  if f = PAR then (some f, none)
  else
    let r := f.reverse
    let afterR := r.takeWhile (· ≠ DOT)
    match r.dropWhile (· ≠ DOT) with
    | [] => (none, some f)
    | _ :: beforeR =>
      if beforeR = [] then (some f, none) else (some beforeR.reverse, some afterR.reverse)

/-- `Path::file_stem` -/
def fileStem (e : Enc) (b : Bytes) : Option Bytes :=
  match fileName e b with
  | some f => let (before, after) := rsplitDot f; before.or after
  | none => none

/-- `Path::extension` -/
def extension (e : Enc) (b : Bytes) : Option Bytes :=
  match fileName e b with
  | some f => let (before, after) := rsplitDot f; if before.isSome then after else none
  | none => none

/-- Ancestors: the path, then repeated parents. Fuel is the byte length + 1; every parent
is strictly shorter (checked by the correspondence; proved: `C09b.parent_shorter`, Props/C09b). -/
def ancestorsAux (e : Enc) : Nat → Bytes → List Bytes
  | 0, b => [b]
  | n + 1, b =>
    match parent e b with
    | some q => b :: ancestorsAux e n q
    | none => [b]

def ancestors (e : Enc) (b : Bytes) : List Bytes := ancestorsAux e (b.length + 1) b

/-- `helpers::iter_after` with a forward `prefix` iterator, whose items are `ys`. -/
def iterAfter (e : Enc) (s : PState) : List Comp → Option PState
  | [] => some s
  | y :: ys =>
    match s.nextFront with
    | some (x, s') => if x.bytes e = y.bytes e then iterAfter e s' ys else none
    | none => none

/-- the same over reversed iterators -/
def iterAfterBack (e : Enc) (s : PState) : List Comp → Option PState
  | [] => some s
  | y :: ys =>
    match s.nextBack with
    | some (x, s') => if x.bytes e = y.bytes e then iterAfterBack e s' ys else none
    | none => none

/-- `Path::strip_prefix` -/
def stripPrefix (e : Enc) (p base : Bytes) : Option Bytes :=
  (iterAfter e (e.new p) (comps e base)).map (·.remaining)

/-- `Path::starts_with` -/
def startsWithP (e : Enc) (p base : Bytes) : Bool := (iterAfter e (e.new p) (comps e base)).isSome

/-- `Path::ends_with` -/
def endsWithP (e : Enc) (p child : Bytes) : Bool :=
  (iterAfterBack e (e.new p) (e.new child).compsBack).isSome

/-- The stack of `Path::normalize`. -/
def normFold (stack : List Comp) : List Comp → List Comp
  | [] => stack
  | c :: cs =>
    if !c.isCur && !c.isParent then normFold (stack ++ [c]) cs
    else if c.isParent then
      match stack.getLast? with
      | some l => if l.isNormal then normFold stack.dropLast cs else normFold stack cs
      | none => normFold stack cs
    else normFold stack cs

def pushAll (e : Enc) (buf : Bytes) : List Comp → Bytes
  | [] => buf
  | c :: cs => pushAll e (push e buf (c.bytes e)) cs

/-- `Path::normalize` -/
def normalize (e : Enc) (b : Bytes) : Bytes := pushAll e [] (normFold [] (comps e b))

/-- `Path::absolutize`, with the current directory (already in this encoding) as a parameter:
`normalize` for an absolute path, `cwd.join(path).normalize()` otherwise -/
def absolutize (e : Enc) (cwd p : Bytes) : Bytes :=
  if isAbsolute e p then normalize e p else normalize e (push e cwd p)

/-- `Path::join` -/
def join (e : Enc) (a b : Bytes) : Bytes := push e a b

/-- `PathBuf::pop` -/
def pop (e : Enc) (b : Bytes) : Bytes × Bool :=
  match parent e b with
  | some q => (b.take q.length, true)
  | none => (b, false)

/-- `PathBuf::set_file_name` -/
def setFileName (e : Enc) (b name : Bytes) : Bytes :=
  let b' := if (fileName e b).isSome then (pop e b).1 else b
  push e b' name

/-- Offset just past the last component's text, measured from the start of the buffer
(the `as_ptr` arithmetic of the repaired `_set_extension`). -/
def lastCompEnd (e : Enc) (b : Bytes) : Nat :=
  let s := e.new b
  (s.preBytes ++ untoks (skipBack s.k s.toks)).length

/-- `PathBuf::set_extension` (after the `fix:`) -/
def setExtension (e : Enc) (b ext : Bytes) : Bytes × Bool :=
  match fileName e b, fileStem e b with
  | some f, some stem =>
    let cut := lastCompEnd e b - f.length + stem.length
    (b.take cut ++ (if ext = [] then [] else DOT :: ext), true)
  | _, _ => (b, false)

/-- `Path::with_encoding` (after the `fix:`) -/
def convFold (t : Enc) (buf : Bytes) : List Comp → Bytes
  | [] => buf
  | c :: cs =>
    if c.isRoot then convFold t (push t buf [t.sepByte]) cs
    else if c.isCur then convFold t (push t buf CUR) cs
    else if c.isParent then convFold t (push t buf PAR) cs
    else if c.isNormal then convFold t (push t buf (c.bytes t)) cs
    else convFold t buf cs

def withEncoding (s t : Enc) (b : Bytes) : Bytes :=
  if s = t then b else convFold t [] (comps s b)

def convFoldChecked (t : Enc) (buf : Bytes) : List Comp → Except CheckedErr Bytes
  | [] => .ok buf
  | c :: cs =>
    if c.isRoot then convFoldChecked t (push t buf [t.sepByte]) cs
    else if c.isCur then convFoldChecked t (push t buf CUR) cs
    else if c.isParent then convFoldChecked t (push t buf PAR) cs
    else if c.isNormal then
      match pushChecked t buf (c.bytes t) with
      | .ok buf' => convFoldChecked t buf' cs
      | .error err => .error err
    else convFoldChecked t buf cs

/-- `Path::with_encoding_checked` (after the `fix:`) -/
def withEncodingChecked (s t : Enc) (b : Bytes) : Except CheckedErr Bytes :=
  if s = t then (if isValid s b then .ok b else .error .invalidFilename)
  else convFoldChecked t [] (comps s b)

/-! ## Equality and ordering (`Iterator::eq` / `Iterator::cmp` over derived impls) -/

def cmpBytes : Bytes → Bytes → Ordering
  | [], [] => .eq
  | [], _ :: _ => .lt
  | _ :: _, [] => .gt
  | a :: as, b :: bs => if a < b then .lt else if b < a then .gt else cmpBytes as bs

def cmpNat (a b : Nat) : Ordering := if a < b then .lt else if b < a then .gt else .eq

def WPrefix.cmp : WPrefix → WPrefix → Ordering
  | .verbatim a, .verbatim b => cmpBytes a b
  | .verbatimUNC a b, .verbatimUNC c d => (cmpBytes a c).then (cmpBytes b d)
  | .verbatimDisk a, .verbatimDisk b => cmpNat a.toNat b.toNat
  | .deviceNS a, .deviceNS b => cmpBytes a b
  | .unc a b, .unc c d => (cmpBytes a c).then (cmpBytes b d)
  | .disk a, .disk b => cmpNat a.toNat b.toNat
  | x, y => cmpNat x.tag y.tag

def Comp.tag : Comp → Nat
  | .pfx _ => 0 | .root => 1 | .cur => 2 | .parent => 3 | .normal _ => 4

def Comp.cmp : Comp → Comp → Ordering
  | .pfx p, .pfx q => p.kind.cmp q.kind
  | .normal a, .normal b => cmpBytes a b
  | x, y => cmpNat x.tag y.tag

/-- Component equality: the prefix is compared by parsed kind only. -/
def Comp.eqv : Comp → Comp → Bool
  | .pfx p, .pfx q => p.kind = q.kind
  | x, y => x = y

def cmpList : List Comp → List Comp → Ordering
  | [], [] => .eq
  | [], _ :: _ => .lt
  | _ :: _, [] => .gt
  | a :: as, b :: bs => (a.cmp b).then (cmpList as bs)

def eqvList : List Comp → List Comp → Bool
  | [], [] => true
  | a :: as, b :: bs => a.eqv b && eqvList as bs
  | _, _ => false

/-- `Path == Path` -/
def pathEq (e : Enc) (a b : Bytes) : Bool := eqvList (comps e a) (comps e b)

/-- `Path::cmp` -/
def pathCmp (e : Enc) (a b : Bytes) : Ordering := cmpList (comps e a) (comps e b)

/-- `TypedPath::derive`: Windows iff first byte is `\` or a Windows prefix parses. -/
def deriveIsWindows (b : Bytes) : Bool := b.head? = some BSLASH || wHasPrefix b

end TP
