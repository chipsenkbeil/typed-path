import TypedPathVerif.Model.Basic
import TypedPathVerif.Model.Parser
import TypedPathVerif.Model.Enc
import TypedPathVerif.Model.Path
import TypedPathVerif.Spec.HashSpec
import TypedPathVerif.Spec.JoinRules
import TypedPathVerif.Spec.WinGrammar
import TypedPathVerif.Spec.Utf8
import TypedPathVerif.Spec.Lossy
import TypedPathVerif.Spec.Chars
import TypedPathVerif.Generated.Alts
import TypedPathVerif.Lemmas.Toks
import TypedPathVerif.Lemmas.CompsT
import TypedPathVerif.Lemmas.Laws
import TypedPathVerif.Lemmas.Reparse
import TypedPathVerif.Lemmas.Split
import TypedPathVerif.Lemmas.WinPrefix
import TypedPathVerif.Lemmas.EncNew
import TypedPathVerif.Lemmas.Parsed
import TypedPathVerif.Lemmas.Canon
import TypedPathVerif.Lemmas.Append
import TypedPathVerif.Lemmas.Render
import TypedPathVerif.Lemmas.NormFold
import TypedPathVerif.Lemmas.IterAfter
import TypedPathVerif.Lemmas.ConvStep
import TypedPathVerif.Lemmas.DotSplit
import TypedPathVerif.Lemmas.Order
import TypedPathVerif.Lemmas.Utf8
import TypedPathVerif.Lemmas.PfxStart
import TypedPathVerif.Lemmas.WinStable
import TypedPathVerif.Lemmas.WinPush
import TypedPathVerif.Lemmas.WinGlue
import TypedPathVerif.Lemmas.WinReparse
import TypedPathVerif.Lemmas.WinAppend
import TypedPathVerif.Lemmas.WinVerbatim
import TypedPathVerif.Lemmas.TokBytes
import TypedPathVerif.Lemmas.CombCore
import TypedPathVerif.Lemmas.CombTok
import TypedPathVerif.Lemmas.CombBack
import TypedPathVerif.Lemmas.CombUnix
import TypedPathVerif.Lemmas.CombWin
import TypedPathVerif.Lemmas.CombPrefix
import TypedPathVerif.Lemmas.CombSim
import TypedPathVerif.Lemmas.CombOps
import TypedPathVerif.Lemmas.HashLoop
import TypedPathVerif.Props.C01
import TypedPathVerif.Props.C01b
import TypedPathVerif.Props.C02
import TypedPathVerif.Props.C02b
import TypedPathVerif.Props.C02c
import TypedPathVerif.Props.C02e
import TypedPathVerif.Props.C02f
import TypedPathVerif.Props.C03
import TypedPathVerif.Props.C04
import TypedPathVerif.Props.C04b
import TypedPathVerif.Props.C05
import TypedPathVerif.Props.C05b
import TypedPathVerif.Props.C06
import TypedPathVerif.Props.C06b
import TypedPathVerif.Props.C07
import TypedPathVerif.Props.C07b
import TypedPathVerif.Props.C08
import TypedPathVerif.Props.C08c
import TypedPathVerif.Props.C09
import TypedPathVerif.Props.C09b
import TypedPathVerif.Props.C10
import TypedPathVerif.Props.C10b
import TypedPathVerif.Props.C10c
import TypedPathVerif.Props.C10d
import TypedPathVerif.Props.C11
import TypedPathVerif.Props.C11b
import TypedPathVerif.Props.C11c
import TypedPathVerif.Props.C12
import TypedPathVerif.Props.C12b
import TypedPathVerif.Props.C12c
import TypedPathVerif.Props.C12d
import TypedPathVerif.Props.C13
import TypedPathVerif.Props.C13b
import TypedPathVerif.Props.C14
import TypedPathVerif.Props.C14b
import TypedPathVerif.Props.C15
import TypedPathVerif.Props.C16
import TypedPathVerif.Props.C16b
import TypedPathVerif.Props.C16c
import TypedPathVerif.Props.C16d
import TypedPathVerif.Props.C16e
import TypedPathVerif.Props.C16f
import TypedPathVerif.Props.C17
import TypedPathVerif.Props.C18
import TypedPathVerif.Props.C18b
import TypedPathVerif.Props.C19
import TypedPathVerif.Props.C19b
import TypedPathVerif.Props.C20
import TypedPathVerif.Props.SurfaceBase
import TypedPathVerif.Props.SurfaceUtf8
import TypedPathVerif.Props.SurfaceTyped
